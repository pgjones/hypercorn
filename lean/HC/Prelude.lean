/-!
# HC.Prelude — shared vocabulary of the hypercorn models

Bytes are `List UInt8`; Python `bytes` methods used by the glue (`lower`, `strip`, `split(b",")`,
`startswith`, `partition`) are re-implemented here as total structural functions so that the
theorems can reason about them.  Also here: runs of a partial step function over an operation list
(`runOps`, with `inv_runOps`: an invariant of the steps is an invariant of the runs) and the inversion of a
`do` block in `Except` (`Except.bind_eq_ok`).  Only core Lean is imported.
-/
namespace HC

abbrev Bytes := List UInt8

namespace Bytes

/-- Python `bytes.lower()` on one byte (ASCII only, like CPython). -/
def lowerB (b : UInt8) : UInt8 := if 65 ≤ b.toNat ∧ b.toNat ≤ 90 then b + 32 else b
def upperB (b : UInt8) : UInt8 := if 97 ≤ b.toNat ∧ b.toNat ≤ 122 then b - 32 else b

def lower (bs : Bytes) : Bytes := bs.map lowerB
def upper (bs : Bytes) : Bytes := bs.map upperB

/-- whitespace stripped by `bytes.strip()` : space, \t \n \v \f \r -/
def isWsB (b : UInt8) : Bool := b == 32 || (9 ≤ b.toNat && b.toNat ≤ 13)

/-- whitespace stripped by `str.strip()` for a latin-1 decoded string:
    bytes.strip() set plus 0x1c-0x1f, 0x85, 0xa0 -/
def isWsL1 (b : UInt8) : Bool :=
  isWsB b || (28 ≤ b.toNat && b.toNat ≤ 31) || b == 0x85 || b == 0xa0

def lstripBy (p : UInt8 → Bool) : Bytes → Bytes
  | [] => []
  | b :: bs => if p b then lstripBy p bs else b :: bs

def rstripBy (p : UInt8 → Bool) (bs : Bytes) : Bytes := (lstripBy p bs.reverse).reverse
def stripBy (p : UInt8 → Bool) (bs : Bytes) : Bytes := rstripBy p (lstripBy p bs)

def strip := stripBy isWsB
def stripL1 := stripBy isWsL1

/-- Python `bs.split(sep)` for a one-byte separator: always at least one piece. -/
def splitOnB (sep : UInt8) : Bytes → List Bytes
  | [] => [[]]
  | b :: bs =>
    if b == sep then [] :: splitOnB sep bs
    else match splitOnB sep bs with
      | [] => [[b]]          -- unreachable (result is never empty)
      | p :: ps => (b :: p) :: ps

theorem splitOnB_ne_nil (sep : UInt8) (bs : Bytes) : splitOnB sep bs ≠ [] := by
  induction bs with
  | nil => simp [splitOnB]
  | cons b bs ih =>
    simp only [splitOnB]
    split
    · simp
    · split <;> simp

/-- splitting `a ++ [sep] ++ b` gives the pieces of `a` followed by the pieces of `b` -/
theorem splitOnB_append_sep (sep : UInt8) (a b : Bytes) :
    splitOnB sep (a ++ sep :: b) = splitOnB sep a ++ splitOnB sep b := by
  induction a with
  | nil => simp [splitOnB]
  | cons x xs ih =>
    simp only [List.cons_append, splitOnB]
    split
    · simp [ih]
    · rw [ih]
      have h := splitOnB_ne_nil sep xs
      cases hxs : splitOnB sep xs with
      | nil => exact absurd hxs h
      | cons p ps => simp

def startsWith (pre bs : Bytes) : Bool := pre.isPrefixOf bs

/-- Python `bs.partition(sep)` for a one-byte separator: (before, found?, after) -/
def partitionB (sep : UInt8) : Bytes → Bytes × Bool × Bytes
  | [] => ([], false, [])
  | b :: bs =>
    if b == sep then ([], true, bs)
    else let (h, f, t) := partitionB sep bs; (b :: h, f, t)

theorem partitionB_join (sep : UInt8) (bs : Bytes) :
    let (h, f, t) := partitionB sep bs
    bs = h ++ (if f then sep :: t else t) ∧ sep ∉ h ∧ (f = false → t = []) := by
  induction bs with
  | nil => simp [partitionB]
  | cons b bs ih =>
    simp only [partitionB]
    by_cases hb : b == sep
    · simp only [hb, if_true]
      have : b = sep := by simpa using hb
      simp [this]
    · simp only [hb]
      have hne : b ≠ sep := by simpa using hb
      obtain ⟨h1, h2, h3⟩ := ih
      refine ⟨?_, ?_, h3⟩
      · simp only [List.cons_append, Bool.false_eq_true, ↓reduceIte]; rw [← h1]
      · simp only [Bool.false_eq_true, ↓reduceIte, List.mem_cons, not_or]
        exact ⟨fun h => hne h.symm, h2⟩

def ofString (s : String) : Bytes := s.toList.map (fun c => c.toNat.toUInt8)
def toString (bs : Bytes) : String := String.ofList (bs.map (fun b => Char.ofNat b.toNat))

end Bytes

/-- ASCII literal helper: `b!"host"` is not available, so `"host".b` -/
def _root_.String.b (s : String) : Bytes := Bytes.ofString s

abbrev Header := Bytes × Bytes
abbrev Headers := List Header

/-- generic: run a partial step function over a list of operations -/
def runOps {σ ο : Type} (step : σ → ο → Option σ) : σ → List ο → Option σ
  | s, [] => some s
  | s, o :: os => match step s o with
    | none => none
    | some s' => runOps step s' os

theorem runOps_append {σ ο : Type} (step : σ → ο → Option σ) (s : σ) (as bs : List ο) :
    runOps step s (as ++ bs) = (runOps step s as).bind (fun s' => runOps step s' bs) := by
  induction as generalizing s with
  | nil => simp [runOps]
  | cons a as ih =>
    simp only [List.cons_append, runOps]
    cases step s a <;> simp [ih]

/-- an invariant preserved by every enabled step holds after every accepted run -/
theorem inv_runOps {σ ο : Type} (step : σ → ο → Option σ) (Inv : σ → Prop) (ok : ο → Prop)
    (hstep : ∀ s o s', ok o → Inv s → step s o = some s' → Inv s') :
    ∀ (ops : List ο) (s s' : σ), Inv s → (∀ o ∈ ops, ok o) → runOps step s ops = some s' → Inv s' := by
  intro ops
  induction ops with
  | nil => intro s s' hI _ hr; simp [runOps] at hr; subst hr; exact hI
  | cons o os ih =>
    intro s s' hI hc hr
    simp only [runOps] at hr
    split at hr
    · simp at hr
    · rename_i s1 hs1
      exact ih s1 s' (hstep s o s1 (hc o (by simp)) hI hs1) (fun o' ho' => hc o' (by simp [ho'])) hr

end HC

/-- a `do` block in `Except` succeeds when each step does -/
theorem Except.bind_eq_ok {ε α β : Type} {x : Except ε α} {f : α → Except ε β} {b : β} :
    (x >>= f) = .ok b ↔ ∃ a, x = .ok a ∧ f a = .ok b := by
  cases x <;> simp [bind, Except.bind]
