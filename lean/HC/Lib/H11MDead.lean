import HC.Lib.H11M
/-!
# H11MDead — when the h11 connection-state machine can never accept another request

`Dead`: the client side is in ERROR, or keep-alive has been switched off (a response head announced
`Connection: close`, or the request asked for it) and the client side is past IDLE.  From such a state the client side
never returns to IDLE — `start_next_cycle()` needs both sides DONE and a DONE side turns MUST_CLOSE at once — so
`next_event()` never yields another `Request`.  All facts about the transition tables are decided on the tables
extracted from the installed library.
-/
namespace HC.Lib.H11M
open HC.Extracted.H11Tables

/-- `Dead` as it stands before the state-triggered transitions have run: `fire` turns `PreDead` into `Dead` (a DONE client side
    with keep-alive off moves on to MUST_CLOSE) -/
def PreDead (s : St) : Prop := s.client = .error ∨ (s.keepAlive = false ∧ s.client ≠ .idle)
def Dead (s : St) : Prop := s.client = .error ∨ (s.keepAlive = false ∧ s.client ≠ .idle ∧ s.client ≠ .done)

theorem Dead.pre {s : St} (h : Dead s) : PreDead s := by
  rcases h with h | ⟨a, b, _⟩
  · exact Or.inl h
  · exact Or.inr ⟨a, b⟩

theorem Dead.not_idle {s : St} (h : Dead s) : s.client ≠ .idle := by
  rcases h with h | ⟨_, b, _⟩
  · rw [h]; decide
  · exact b

theorem Dead.not_done {s : St} (h : Dead s) : s.client ≠ .done := by
  rcases h with h | ⟨_, _, c⟩
  · rw [h]; decide
  · exact c

theorem firePair_error (pend ka : Bool) (sv : HSt) : (firePair pend ka .error sv).1 = .error :=
  firePair_forall (fun _ _ c _ r => c = .error → r.1 = .error) (by decide +kernel) pend ka .error sv rfl

theorem firePair_closing (pend : Bool) (c sv : HSt) (h : c ≠ .idle) :
    (firePair pend false c sv).1 ≠ .idle ∧ (firePair pend false c sv).1 ≠ .done :=
  firePair_forall (fun _ k c _ r => k = false → c ≠ .idle → r.1 ≠ .idle ∧ r.1 ≠ .done) (by decide +kernel) pend false c sv rfl h

theorem firePair_idle (pend ka : Bool) (c sv : HSt) : (firePair pend ka c sv).1 = .idle → c = .idle :=
  firePair_forall (fun _ _ c _ r => r.1 = .idle → c = .idle) (by decide +kernel) pend ka c sv

@[simp] theorem fireOnce_keepAlive (s : St) : (fireOnce s).keepAlive = s.keepAlive := rfl
@[simp] theorem fire_keepAlive (s : St) : (fire s).keepAlive = s.keepAlive := by rw [fire_frame]

theorem fireOnce_dead (s : St) (h : PreDead s) : Dead (fireOnce s) := by
  rcases h with h | ⟨a, b⟩
  · left; simp only [fireOnce]; rw [h]; exact firePair_error _ _ _
  · right
    refine ⟨a, ?_⟩
    simp only [fireOnce]
    rw [a]
    exact firePair_closing _ _ _ b

theorem fire_dead (s : St) (h : PreDead s) : Dead (fire s) :=
  fire_of_fireOnce (T := fun a b => PreDead a → Dead b) (fun h1 h2 h => h2 (h1 h).pre) fireOnce_dead s h

theorem fireOnce_idle (s : St) : (fireOnce s).client = .idle → s.client = .idle := by
  simp only [fireOnce]; exact firePair_idle _ _ _ _

theorem fire_idle (s : St) : (fire s).client = .idle → s.client = .idle :=
  fire_of_fireOnce (T := fun a b => b.client = .idle → a.client = .idle) (fun h1 h2 h => h1 (h2 h)) fireOnce_idle s

@[simp] theorem St.set_server_keepAlive (s : St) (v : HSt) : (s.set .server v).keepAlive = s.keepAlive := rfl
@[simp] theorem St.set_client_keepAlive (s : St) (v : HSt) : (s.set .client v).keepAlive = s.keepAlive := rfl
@[simp] theorem St.clearPend_keepAlive (s : St) (b : Bool) : (s.clearPend b).keepAlive = s.keepAlive := by
  unfold St.clearPend; split <;> rfl
@[simp] theorem St.withWaiting_keepAlive (s : St) (b : Bool) : (s.withWaiting b).keepAlive = s.keepAlive := rfl
@[simp] theorem St.withKeepAliveOff_keepAlive (s : St) : s.withKeepAliveOff.keepAlive = false := rfl

theorem no_event_from_error (k : EvKey) : lookupEvent .client .error k = none :=
  lookupEvent_forall (fun r st _ t => r = .client → st = .error → t = none) (by decide +kernel) .client .error k rfl rfl
theorem event_not_to_idle (st t : HSt) (k : EvKey) (h : lookupEvent .client st k = some t) : t ≠ .idle := by
  rintro rfl
  exact lookupEvent_forall (fun r _ _ t => r = .client → t ≠ some .idle) (by decide +kernel) .client st k rfl h
theorem request_from_idle (st t : HSt) (h : lookupEvent .client st .request = some t) : st = .idle :=
  lookupEvent_forall (fun r st k t => r = .client → k = .request → t.isSome = true → st = .idle) (by decide +kernel) .client st .request
    rfl rfl (by rw [h]; rfl)

/-- `PreDead` reads the client side and the keep-alive flag: an assignment to the writer side does not change it -/
theorem PreDead.set_server {s : St} (hd : PreDead s) (b : Bool) (sv : HSt) : PreDead ((s.clearPend b).set .server sv) := by
  rcases hd with hd | ⟨a, c⟩
  · left; simpa using hd
  · right; exact ⟨by simpa using a, by simpa using c⟩

theorem stepServer_dead (s s' : St) (k : EvKey) (h : stepServer s k = some s') (hd : PreDead s) : Dead s' := by
  obtain ⟨sv, _, rfl⟩ := stepServer_eq h
  exact fire_dead _ (hd.set_server _ sv)

theorem stepServer_idle (s s' : St) (k : EvKey) (h : stepServer s k = some s') : s'.client = .idle → s.client = .idle := by
  obtain ⟨sv, _, rfl⟩ := stepServer_eq h
  intro hi
  simpa using fire_idle _ hi

theorem stepClient_dead (s s' : St) (k : EvKey) (h : stepClient s k = some s') (hd : Dead s) : Dead s' := by
  obtain ⟨c, hc, rfl⟩ := stepClient_eq h
  rcases hd with hd | ⟨a, _, _⟩
  · rw [hd, no_event_from_error] at hc; cases hc
  · apply fire_dead
    right
    exact ⟨by simpa using a, by simpa using event_not_to_idle _ _ _ hc⟩

theorem proposals_idle (s : St) (r : ReqInfo) : (proposals s r).client = .idle → s.client = .idle := by
  unfold proposals
  intro h
  by_cases hu : r.hasUpgrade = true <;> by_cases hc : r.isConnect = true <;> simp only [hu, hc, if_true] at h
  · have := fire_idle _ h; simp at this; simpa using fire_idle _ this
  · simpa using fire_idle _ h
  · simpa using fire_idle _ h
  · simpa using h

/-- a `Request` event needs the client side in IDLE -/
theorem recvRequest_idle (s s' : St) (r : ReqInfo) (h : recvRequest s r = some s') : s.client = .idle := by
  obtain ⟨s1, hs1, _⟩ := recvRequest_eq h
  obtain ⟨c, _, hc, _, _⟩ := stepRequest_eq hs1
  exact proposals_idle s r (request_from_idle _ _ hc)

theorem recvRequest_not_dead (s s' : St) (r : ReqInfo) (h : recvRequest s r = some s') : ¬ Dead s :=
  fun hd => hd.not_idle (recvRequest_idle s s' r h)

theorem keepAliveDisabled_dead (s : St) (h : s.client ≠ .idle) : Dead (keepAliveDisabled s) := by
  unfold keepAliveDisabled
  exact fire_dead _ (Or.inr ⟨rfl, by simpa using h⟩)

theorem withWaiting_dead (s : St) (b : Bool) (h : Dead s) : Dead (s.withWaiting b) := h

theorem sendInfo_dead (s s' : St) (n : Nat) (h : sendInfo s n = some s') (hd : Dead s) : Dead s' := by
  obtain ⟨s1, k, h1, _, rfl⟩ := sendInfo_eq h
  exact withWaiting_dead _ _ (stepServer_dead _ _ _ h1 hd.pre)

theorem sendData_dead (s s' : St) (h : sendData s = some s') (hd : Dead s) : Dead s' :=
  stepServer_dead _ _ _ (sendData_eq h) hd.pre

theorem sendEom_dead (s s' : St) (h : sendEom s = some s') (hd : Dead s) : Dead s' :=
  stepServer_dead _ _ _ (sendEom_eq h) hd.pre

theorem sendResponse_dead (s s' : St) (r : RespInfo) (h : sendResponse s r = some s') (hd : Dead s) : Dead s' := by
  obtain ⟨s1, k, h1, _, rfl⟩ := sendResponse_eq h
  have hd1 : Dead (s1.withWaiting false) := withWaiting_dead _ _ (stepServer_dead _ _ _ h1 hd.pre)
  split
  · exact keepAliveDisabled_dead _ hd1.not_idle
  · exact hd1

/-- a response head that announces close on a connection whose client side is past IDLE ends the connection's reuse -/
theorem sendResponse_close_dead (s s' : St) (r : RespInfo) (h : sendResponse s r = some s') (hc : respAnnouncesClose s r = true)
    (hi : s.client ≠ .idle) : Dead s' := by
  obtain ⟨s1, k, h1, _, rfl⟩ := sendResponse_eq h
  rw [if_pos hc]
  exact keepAliveDisabled_dead _ fun h0 => hi (stepServer_idle _ _ _ h1 h0)

theorem sendFailed_dead (s : St) (hd : Dead s) : Dead (sendFailed s) := by
  unfold sendFailed processError
  exact fire_dead _ (hd.pre.set_server false .error)

theorem LibCall.dead {s s' : St} (h : LibCall s s') (hd : Dead s) : Dead s' := by
  cases h with
  | info h => exact sendInfo_dead _ _ _ h hd
  | response h => exact sendResponse_dead _ _ _ h hd
  | data h => exact sendData_dead _ _ h hd
  | eom h => exact sendEom_dead _ _ h hd
  | failed => exact sendFailed_dead _ hd

theorem recvError_dead (s : St) : Dead (recvError s) := by
  unfold recvError processError
  exact fire_dead _ (Or.inl (by simp))

theorem recvData_dead (s s' : St) (h : recvData s = some s') (hd : Dead s) : Dead s' := by
  obtain ⟨x, hx, rfl⟩ := recvData_eq h
  exact withWaiting_dead _ _ (stepClient_dead _ _ _ hx hd)

theorem recvEom_dead (s s' : St) (h : recvEom s = some s') (hd : Dead s) : Dead s' := by
  obtain ⟨x, hx, rfl⟩ := recvEom_eq h
  exact withWaiting_dead _ _ (stepClient_dead _ _ _ hx hd)

theorem recvClosed_dead (s s' : St) (h : recvClosed s = some s') (hd : Dead s) : Dead s' :=
  stepClient_dead _ _ _ h hd

theorem startNextCycle_not_dead (s s' : St) (h : startNextCycle s = some s') : ¬ Dead s :=
  fun hd => hd.not_done (startNextCycle_eq h).1

theorem firePair_error_fix (pend ka : Bool) (sv : HSt) (h : sv ≠ .done) : firePair pend ka .error sv = (.error, sv) :=
  firePair_forall (fun _ _ c sv r => c = .error → sv ≠ .done → r = (.error, sv)) (by decide +kernel) pend ka .error sv rfl h
theorem firePair_error_done (pend ka : Bool) : firePair pend ka .error .done = (.error, .mustClose) :=
  firePair_forall (fun _ _ c sv r => c = .error → sv = .done → r = (.error, .mustClose)) (by decide +kernel) pend ka .error .done rfl rfl

theorem fireOnce_fix (s : St) (h : firePair (s.pendUpgrade || s.pendConnect) s.keepAlive s.client s.server = (s.client, s.server)) :
    fireOnce s = s := by
  simp only [fireOnce, h]
theorem fire_fix (s : St) (h : firePair (s.pendUpgrade || s.pendConnect) s.keepAlive s.client s.server = (s.client, s.server)) :
    fire s = s := by
  simp only [fire, fireOnce_fix s h]

/-- with the client side in ERROR the state-triggered transitions only ever move a DONE server side to MUST_CLOSE -/
theorem fire_error (s : St) (hc : s.client = .error) :
    (fire s).client = .error ∧ (fire s).server = (if s.server = .done then .mustClose else s.server) := by
  by_cases hd : s.server = .done
  · have h1 : fireOnce s = { s with server := .mustClose } := by
      simp only [fireOnce, hc, hd, firePair_error_done]
    have h2 : fireOnce { s with server := .mustClose } = { s with server := .mustClose } :=
      fireOnce_fix _ (by simp only [hc]; exact firePair_error_fix _ _ _ (by decide))
    unfold fire
    rw [h1, h2, h2, h2, h2, h2]
    simp [hc, hd]
  · have := fire_fix s (by rw [hc]; exact firePair_error_fix _ _ _ hd)
    rw [this]; simp [hc, hd]

/-- with the client side in ERROR a writer-side event the table allows goes through, and lands on the table's target unless
    that is DONE -/
theorem stepServer_error (s : St) (k : EvKey) (sv : HSt) (hc : s.client = .error) (hl : lookupEvent .server s.server k = some sv)
    (hk : k ≠ .infoSwitchUpgrade ∧ k ≠ .responseSwitchConnect) :
    ∃ x, stepServer s k = some x ∧ x.client = .error ∧ (sv ≠ .done → x.server = sv) := by
  have hg : ((k == .infoSwitchUpgrade && !s.pendUpgrade) || (k == .responseSwitchConnect && !s.pendConnect)) = false := by
    simp [hk.1, hk.2]
  refine ⟨_, by simp only [stepServer, hg, hl]; rfl, ?_⟩
  have h := fire_error ((s.clearPend (k == .response)).set .server sv) (by simpa using hc)
  exact ⟨h.1, fun hne => by rw [h.2, St.set_server_server, if_neg hne]⟩

/-- hypercorn's error response (a non-2xx head carrying `connection: close`, then EndOfMessage) is accepted by h11
    after a `RemoteProtocolError` whenever our side was still IDLE -/
theorem error_response_goes_out (s : St) (r : RespInfo) (hs : s.server = .idle)
    (hst : ¬ (200 ≤ r.status ∧ r.status < 300)) (hcl : r.connClose = true) :
    (recvError s).server = .idle ∧ ∃ s2 s3, sendResponse (recvError s) r = some s2 ∧ sendEom s2 = some s3 := by
  -- the error puts the client side in ERROR; from then on `fire` leaves a writer that is not DONE alone (`fire_error`)
  have e1 := fire_error (s.set .client .error) rfl
  simp only [St.set_client_server, hs] at e1
  have hserver : (recvError s).server = .idle := by simpa [recvError, processError] using e1.2
  have hclient : (recvError s).client = .error := by simpa [recvError, processError] using e1.1
  refine ⟨hserver, ?_⟩
  -- the head: IDLE → SEND_BODY by the table (not the 2xx answer to a CONNECT); it announces close, so keep-alive goes off
  obtain ⟨x, hx, hxc, hxs⟩ := stepServer_error (recvError s) .response .sendBody hclient (by rw [hserver]; decide) ⟨by decide, by decide⟩
  have hk : (((recvError s).pendConnect && decide (200 ≤ r.status) && decide (r.status < 300)) = true) = False := by
    cases (recvError s).pendConnect <;> simp <;> omega
  have hann : respAnnouncesClose (recvError s) r = true := by simp [respAnnouncesClose, hcl]
  have hsr : sendResponse (recvError s) r = some (keepAliveDisabled (x.withWaiting false)) := by
    simp only [sendResponse, hserver, hk, if_false, hx, hann, if_true]
    simp
  have e2 := fire_error (x.withWaiting false).withKeepAliveOff (by simpa [St.withKeepAliveOff] using hxc)
  have hc2 : (keepAliveDisabled (x.withWaiting false)).client = .error := e2.1
  have hs2 : (keepAliveDisabled (x.withWaiting false)).server = .sendBody := by
    simpa [keepAliveDisabled, St.withKeepAliveOff, St.withWaiting, hxs (by decide)] using e2.2
  -- the EndOfMessage: SEND_BODY → DONE by the table
  obtain ⟨s3, h3, _⟩ := stepServer_error _ .eom .done hc2 (by rw [hs2]; decide) ⟨by decide, by decide⟩
  exact ⟨_, s3, hsr, by simp only [sendEom, hs2]; exact h3⟩

end HC.Lib.H11M
