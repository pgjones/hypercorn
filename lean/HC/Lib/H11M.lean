import HC.Prelude
import HC.Extracted.H11Tables
/-!
# H11M — the h11 connection-state machine as hypercorn uses it (library model, *assumed*, sampled by taps)

Logic transcribed from `h11/_state.py` (`ConnectionState`) and the parts of `h11/_connection.py` that feed it
(`_process_event`, `_keep_alive`, `_clean_up_response_headers_for_sending`); the two transition tables are
generated from the installed library (`HC.Extracted.H11Tables`).  Byte-level parsing is not modelled: the events
`next_event()` yields are inputs.
-/
namespace HC.Lib.H11M
open HC.Extracted.H11Tables

structure St where
  client : HSt := .idle
  server : HSt := .idle
  keepAlive : Bool := true
  pendUpgrade : Bool := false
  pendConnect : Bool := false
  waiting100 : Bool := false          -- client_is_waiting_for_100_continue
  reqHead : Bool := false             -- request method was HEAD
  reqConnect : Bool := false
  their10 : Bool := false             -- their_http_version < 1.1
deriving Repr, DecidableEq

def St.get (s : St) : Role → HSt | .client => s.client | .server => s.server
def St.set (s : St) : Role → HSt → St
  | .client, v => { s with client := v }
  | .server, v => { s with server := v }

def lookupEvent (r : Role) (st : HSt) (k : EvKey) : Option HSt :=
  (eventTable.find? (fun row => row.1 == r && row.2.1 == st && row.2.2.1 == k)).map (·.2.2.2)

/-- `changes = STATE_TRIGGERED_TRANSITIONS.get(joint_state, {}); self.states.update(changes)` on a (client, server) pair -/
def applyState (c sv : HSt) : HSt × HSt :=
  (stateTable.filter (fun row => row.1 == c && row.2.1 == sv)).foldl
    (fun acc row => match row.2.2.1 with | .client => (row.2.2.2, acc.2) | .server => (acc.1, row.2.2.2)) (c, sv)

/-- the client / server states after one pass of `_fire_state_triggered_transitions` -/
def firePair (pend keepAlive : Bool) (c sv : HSt) : HSt × HSt :=
  let c := if pend && c == .done then .mightSwitch else c
  let c := if !pend && c == .mightSwitch then .done else c
  let c := if !keepAlive && c == .done then .mustClose else c
  let sv := if !keepAlive && sv == .done then .mustClose else sv
  applyState c sv

/-- one pass of `_fire_state_triggered_transitions` -/
def fireOnce (s : St) : St :=
  let p := firePair (s.pendUpgrade || s.pendConnect) s.keepAlive s.client s.server
  { s with client := p.1, server := p.2 }

/-- the `while True` loop; it converges within a few passes (6 is ample; convergence is sampled, not proved) -/
def fire (s : St) : St := fireOnce (fireOnce (fireOnce (fireOnce (fireOnce (fireOnce s)))))

/-! small state updates; what each does to `client` / `server` is stated here as simp lemmas, to `keepAlive` in `H11MDead`, to
    `waiting100` and the pending proposals in `H11MSend` -/
def St.clearPend (s : St) (b : Bool) : St := if b then { s with pendUpgrade := false, pendConnect := false } else s
def St.withKeepAliveOff (s : St) : St := { s with keepAlive := false }
def St.withPendConnect (s : St) : St := { s with pendConnect := true }
def St.withPendUpgrade (s : St) : St := { s with pendUpgrade := true }
def St.withWaiting (s : St) (b : Bool) : St := { s with waiting100 := b }
def St.withReq (s : St) (h c t : Bool) : St := { s with reqHead := h, reqConnect := c, their10 := t }

@[simp] theorem St.set_server_client (s : St) (v : HSt) : (s.set .server v).client = s.client := rfl
@[simp] theorem St.set_client_client (s : St) (v : HSt) : (s.set .client v).client = v := rfl
@[simp] theorem St.set_client_server (s : St) (v : HSt) : (s.set .client v).server = s.server := rfl
@[simp] theorem St.set_server_server (s : St) (v : HSt) : (s.set .server v).server = v := rfl
@[simp] theorem St.clearPend_client (s : St) (b : Bool) : (s.clearPend b).client = s.client := by
  unfold St.clearPend; split <;> rfl
@[simp] theorem St.clearPend_server (s : St) (b : Bool) : (s.clearPend b).server = s.server := by
  unfold St.clearPend; split <;> rfl
@[simp] theorem St.withKeepAliveOff_client (s : St) : s.withKeepAliveOff.client = s.client := rfl
@[simp] theorem St.withPendConnect_client (s : St) : s.withPendConnect.client = s.client := rfl
@[simp] theorem St.withPendUpgrade_client (s : St) : s.withPendUpgrade.client = s.client := rfl
@[simp] theorem St.withWaiting_client (s : St) (b : Bool) : (s.withWaiting b).client = s.client := rfl
@[simp] theorem St.withWaiting_server (s : St) (b : Bool) : (s.withWaiting b).server = s.server := rfl
@[simp] theorem St.withReq_client (s : St) (h c t : Bool) : (s.withReq h c t).client = s.client := rfl

/-- `process_event(CLIENT, Data | EndOfMessage | ConnectionClosed)`; `none` = LocalProtocolError -/
def stepClient (s : St) (k : EvKey) : Option St :=
  match lookupEvent .client s.client k with
  | none => none
  | some c => some (fire (s.set .client c))

/-- `process_event(SERVER, type, server_switch_event)`; a switch event needs a pending proposal -/
def stepServer (s : St) (k : EvKey) : Option St :=
  if (k == .infoSwitchUpgrade && !s.pendUpgrade) || (k == .responseSwitchConnect && !s.pendConnect) then none
  else
    match lookupEvent .server s.server k with
    | none => none
    | some sv => some (fire ((s.clearPend (k == .response)).set .server sv))

/-- `process_event(CLIENT, Request)`: the client transition, then the server's `(Request, CLIENT)` transition -/
def stepRequest (s : St) : Option St :=
  match lookupEvent .client s.client .request with
  | none => none
  | some c =>
    match lookupEvent .server s.server .requestClient with
    | none => none
    | some sv => some (fire ((s.set .client c).set .server sv))

def processError (s : St) (r : Role) : St := fire (s.set r .error)
def keepAliveDisabled (s : St) : St := fire s.withKeepAliveOff

structure ReqInfo where
  isHead : Bool := false
  isConnect : Bool := false
  hasUpgrade : Bool := false        -- a non-empty `Upgrade` header
  keepAlive : Bool := true          -- no `Connection: close` token and HTTP/1.1
  http10 : Bool := false
  expect100 : Bool := false
deriving Repr, DecidableEq

/-- the bookkeeping `_process_event` does after the state machine accepted a Request -/
def afterRequest (s : St) (r : ReqInfo) : St :=
  let s1 := s.withReq r.isHead r.isConnect r.http10
  let s2 := if r.keepAlive then s1 else keepAliveDisabled s1
  if r.expect100 then s2.withWaiting true else s2

/-- the switch proposals `_process_event` registers before the Request is processed -/
def proposals (s : St) (r : ReqInfo) : St :=
  let s1 := if r.isConnect then fire s.withPendConnect else s
  if r.hasUpgrade then fire s1.withPendUpgrade else s1

/-- `_process_event(CLIENT, Request)` as run by `next_event()` -/
def recvRequest (s : St) (r : ReqInfo) : Option St :=
  match stepRequest (proposals s r) with
  | none => none
  | some s1 => some (afterRequest s1 r)

def recvData (s : St) : Option St := (stepClient s .data).map (fun s => s.withWaiting false)
def recvEom (s : St) : Option St := (stepClient s .eom).map (fun s => s.withWaiting false)
def recvClosed (s : St) : Option St := stepClient s .connClosed
/-- `next_event()` raised RemoteProtocolError -/
def recvError (s : St) : St := processError s .client

structure RespInfo where
  status : Nat
  hasContentLength : Bool := false
  hasChunked : Bool := false
  connClose : Bool := false          -- the headers handed over already contain `connection: close`
deriving Repr, DecidableEq

inductive Framing | contentLength | chunked | http10
deriving Repr, DecidableEq

/-- `_body_framing(request_method, response)` -/
def framing (s : St) (r : RespInfo) : Framing :=
  if r.status == 204 || r.status == 304 || s.reqHead || (s.reqConnect && 200 ≤ r.status && r.status < 300) then .contentLength
  else if r.hasChunked then .chunked
  else if r.hasContentLength then .contentLength
  else .http10

/-- whether the response head goes out with `Connection: close` (`_clean_up_response_headers_for_sending`) -/
def respAnnouncesClose (s : St) (r : RespInfo) : Bool :=
  let f := framing s r
  let needClose := (f == .chunked || f == .http10) && s.their10 && !s.reqHead
  r.connClose || !s.keepAlive || needClose

/-- `send(InformationalResponse)`; status 101 is the upgrade switch event -/
def sendInfo (s : St) (status : Nat) : Option St :=
  if s.server == .error then none
  else (stepServer s (if status == 101 then .infoSwitchUpgrade else .info)).map (fun s => s.withWaiting false)

/-- `send(Response)` -/
def sendResponse (s : St) (r : RespInfo) : Option St :=
  if s.server == .error then none
  else
    match stepServer s (if s.pendConnect && 200 ≤ r.status && r.status < 300 then EvKey.responseSwitchConnect else .response) with
    | none => none
    | some s1 => some (if respAnnouncesClose s r then keepAliveDisabled (s1.withWaiting false) else s1.withWaiting false)

def sendData (s : St) : Option St := if s.server == .error then none else stepServer s .data
def sendEom (s : St) : Option St := if s.server == .error then none else stepServer s .eom
/-- a `send` that raised LocalProtocolError puts our side into ERROR -/
def sendFailed (s : St) : St := processError s .server

/-- `start_next_cycle()`: both DONE, else LocalProtocolError -/
def startNextCycle (s : St) : Option St :=
  if s.client == .done && s.server == .done then
    some { s with client := .idle, server := .idle, waiting100 := false, reqHead := false, reqConnect := false }
  else none

/-! ### proof principles for the machine

The two tables are generated from the installed library, so facts about them are decided, not argued: one sweep over all
arguments of `firePair` / `lookupEvent` per fact.  `fire` only touches the two states, and is six passes of `fireOnce`. -/

def allHSt : List HSt := [.idle, .sendResponse, .sendBody, .done, .mustClose, .closed, .error, .mightSwitch, .switched]
def allEvKey : List EvKey := [.request, .requestClient, .info, .response, .data, .eom, .connClosed, .infoSwitchUpgrade, .responseSwitchConnect]

theorem mem_allHSt (x : HSt) : x ∈ allHSt := by cases x <;> decide
theorem mem_allEvKey (k : EvKey) : k ∈ allEvKey := by cases k <;> decide
theorem mem_allBool (b : Bool) : b ∈ [true, false] := by cases b <;> decide

/-- a decidable property of `firePair` holds once it is checked on all 324 arguments -/
theorem firePair_forall (P : Bool → Bool → HSt → HSt → HSt × HSt → Prop) [∀ p k c sv r, Decidable (P p k c sv r)]
    (h : ∀ p ∈ [true, false], ∀ k ∈ [true, false], ∀ c ∈ allHSt, ∀ sv ∈ allHSt, P p k c sv (firePair p k c sv))
    (p k : Bool) (c sv : HSt) : P p k c sv (firePair p k c sv) :=
  h p (mem_allBool p) k (mem_allBool k) c (mem_allHSt c) sv (mem_allHSt sv)

/-- a decidable property of the event table holds once it is checked on every (role, state, event) -/
theorem lookupEvent_forall (P : Role → HSt → EvKey → Option HSt → Prop) [∀ r st k t, Decidable (P r st k t)]
    (h : ∀ r ∈ [Role.client, Role.server], ∀ st ∈ allHSt, ∀ k ∈ allEvKey, P r st k (lookupEvent r st k))
    (r : Role) (st : HSt) (k : EvKey) : P r st k (lookupEvent r st k) :=
  h r (by cases r <;> decide) st (mem_allHSt st) k (mem_allEvKey k)

theorem fire_frame (s : St) : fire s = { s with client := (fire s).client, server := (fire s).server } := by
  unfold fire fireOnce; rfl

/-- what one pass does and passes compose is what `fire` does -/
theorem fire_of_fireOnce {T : St → St → Prop} (trans : ∀ {a b c}, T a b → T b c → T a c) (one : ∀ s, T s (fireOnce s)) (s : St) :
    T s (fire s) :=
  trans (one _) (trans (one _) (trans (one _) (trans (one _) (trans (one _) (one _)))))

/-! ### what a call is made of (the `match`es of the entry points, inverted once) -/

theorem stepClient_eq {s s' : St} {k : EvKey} (h : stepClient s k = some s') :
    ∃ c, lookupEvent .client s.client k = some c ∧ s' = fire (s.set .client c) := by
  unfold stepClient at h
  split at h
  · cases h
  · rename_i c hc; cases h; exact ⟨c, hc, rfl⟩

theorem stepServer_eq {s s' : St} {k : EvKey} (h : stepServer s k = some s') :
    ∃ sv, lookupEvent .server s.server k = some sv ∧ s' = fire ((s.clearPend (k == .response)).set .server sv) := by
  unfold stepServer at h
  split at h
  · cases h
  · split at h
    · cases h
    · rename_i sv hsv; cases h; exact ⟨sv, hsv, rfl⟩

theorem stepRequest_eq {s s' : St} (h : stepRequest s = some s') :
    ∃ c sv, lookupEvent .client s.client .request = some c ∧ lookupEvent .server s.server .requestClient = some sv ∧
      s' = fire ((s.set .client c).set .server sv) := by
  unfold stepRequest at h
  split at h
  · cases h
  · split at h
    · cases h
    · rename_i c hc _ sv hsv; cases h; exact ⟨c, sv, hc, hsv, rfl⟩

theorem recvRequest_eq {s s' : St} {r : ReqInfo} (h : recvRequest s r = some s') :
    ∃ s1, stepRequest (proposals s r) = some s1 ∧ s' = afterRequest s1 r := by
  unfold recvRequest at h
  split at h
  · cases h
  · rename_i s1 hs1; cases h; exact ⟨s1, hs1, rfl⟩

/-- the bookkeeping after a `Request`: the request's flags, keep-alive switched off if it asked for that, the 100-continue flag -/
theorem afterRequest_cases (s : St) (r : ReqInfo) :
    ∃ x, (x = s.withReq r.isHead r.isConnect r.http10 ∨ x = keepAliveDisabled (s.withReq r.isHead r.isConnect r.http10)) ∧
      (afterRequest s r = x ∨ afterRequest s r = x.withWaiting true) := by
  unfold afterRequest
  by_cases hk : r.keepAlive = true <;> by_cases he : r.expect100 = true <;> simp [hk, he]

theorem recvData_eq {s s' : St} (h : recvData s = some s') : ∃ s1, stepClient s .data = some s1 ∧ s' = s1.withWaiting false := by
  obtain ⟨s1, h1, rfl⟩ := Option.map_eq_some_iff.mp h
  exact ⟨s1, h1, rfl⟩

theorem recvEom_eq {s s' : St} (h : recvEom s = some s') : ∃ s1, stepClient s .eom = some s1 ∧ s' = s1.withWaiting false := by
  obtain ⟨s1, h1, rfl⟩ := Option.map_eq_some_iff.mp h
  exact ⟨s1, h1, rfl⟩

/-- `send(InformationalResponse)` accepted: a writer-side step with one of the two informational keys, then the flag -/
theorem sendInfo_eq {s s' : St} {n : Nat} (h : sendInfo s n = some s') :
    ∃ s1 k, stepServer s k = some s1 ∧ (k = .info ∨ k = .infoSwitchUpgrade) ∧ s' = s1.withWaiting false := by
  unfold sendInfo at h
  split at h
  · cases h
  · obtain ⟨s1, h1, rfl⟩ := Option.map_eq_some_iff.mp h
    exact ⟨s1, _, h1, by split <;> simp, rfl⟩

/-- `send(Response)` accepted: a writer-side step with one of the two response keys, the flag, and keep-alive switched off when
    the head announces close -/
theorem sendResponse_eq {s s' : St} {r : RespInfo} (h : sendResponse s r = some s') :
    ∃ s1 k, stepServer s k = some s1 ∧ (k = .response ∨ k = .responseSwitchConnect) ∧
      s' = if respAnnouncesClose s r then keepAliveDisabled (s1.withWaiting false) else s1.withWaiting false := by
  unfold sendResponse at h
  split at h
  · cases h
  · split at h
    · cases h
    · rename_i s1 hs1; cases h; exact ⟨s1, _, hs1, by split <;> simp, rfl⟩

theorem sendData_eq {s s' : St} (h : sendData s = some s') : stepServer s .data = some s' := by
  unfold sendData at h; split at h
  · cases h
  · exact h

theorem sendEom_eq {s s' : St} (h : sendEom s = some s') : stepServer s .eom = some s' := by
  unfold sendEom at h; split at h
  · cases h
  · exact h

theorem startNextCycle_eq {s s' : St} (h : startNextCycle s = some s') :
    s.client = .done ∧ s.server = .done ∧
      s' = { s with client := .idle, server := .idle, waiting100 := false, reqHead := false, reqConnect := false } := by
  unfold startNextCycle at h
  split at h
  · rename_i hc
    simp only [Bool.and_eq_true, beq_iff_eq] at hc
    cases h; exact ⟨hc.1, hc.2, rfl⟩
  · cases h

/-- one call of hypercorn's `_send_h11_event` as h11 sees it: an accepted `send`, or `send_failed` after a refused one.
    `failed` is there for every state: that the `send` was refused is not recorded (an over-approximation the users can afford) -/
inductive LibCall : St → St → Prop
  | info {s s' : St} {n : Nat} : sendInfo s n = some s' → LibCall s s'
  | response {s s' : St} {r : RespInfo} : sendResponse s r = some s' → LibCall s s'
  | data {s s' : St} : sendData s = some s' → LibCall s s'
  | eom {s s' : St} : sendEom s = some s' → LibCall s s'
  | failed (s : St) : LibCall s (sendFailed s)

end HC.Lib.H11M
