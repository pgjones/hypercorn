import HC.Lib.H11MDead
/-!
# H11MSend — what h11's `send` does to the connection-state machine (facts decided on the extracted tables)

In which writer states a `send` is accepted, where it leaves the writer, and that no `send` moves the reader side to IDLE or
out of ERROR (`LibCall.after`).  Used by every walk over `H11Protocol`'s own calls into h11: `H11Moves`, the `total_h1`
invariant, C05, C06.
-/
namespace HC.Lib.H11M
open HC.Extracted.H11Tables

/-- the writer is in a state from which `start_next_cycle` / a new request is out of reach without an EndOfMessage; the
    state-triggered transitions leave such a writer where it is (`fire_notBad`) -/
def NotBad (sv : HSt) : Prop := sv ≠ .idle ∧ sv ≠ .done ∧ sv ≠ .mustClose

theorem firePair_server (p k : Bool) (c sv : HSt) (h1 : sv ≠ .done) (h2 : sv ≠ .idle) : (firePair p k c sv).2 = sv :=
  firePair_forall (fun _ _ _ sv r => sv ≠ .done → sv ≠ .idle → r.2 = sv) (by decide +kernel) p k c sv h1 h2

theorem fireOnce_server (s : St) (h1 : s.server ≠ .done) (h2 : s.server ≠ .idle) : (fireOnce s).server = s.server := by
  simp only [fireOnce]; exact firePair_server _ _ _ _ h1 h2

theorem fire_server (s : St) (h1 : s.server ≠ .done) (h2 : s.server ≠ .idle) : (fire s).server = s.server :=
  fire_of_fireOnce (T := fun a b => a.server ≠ .done → a.server ≠ .idle → b.server = a.server)
    (fun hab hbc h1 h2 => by rw [hbc (hab h1 h2 ▸ h1) (hab h1 h2 ▸ h2), hab h1 h2]) fireOnce_server s h1 h2

@[simp] theorem St.set_waiting100 (s : St) (r : Role) (v : HSt) : (s.set r v).waiting100 = s.waiting100 := by cases r <;> rfl
@[simp] theorem St.set_pendUpgrade (s : St) (r : Role) (v : HSt) : (s.set r v).pendUpgrade = s.pendUpgrade := by cases r <;> rfl
@[simp] theorem St.set_pendConnect (s : St) (r : Role) (v : HSt) : (s.set r v).pendConnect = s.pendConnect := by cases r <;> rfl
@[simp] theorem St.clearPend_waiting100 (s : St) (b : Bool) : (s.clearPend b).waiting100 = s.waiting100 := by
  unfold St.clearPend; split <;> rfl
@[simp] theorem St.clearPend_false (s : St) : s.clearPend false = s := rfl
@[simp] theorem fire_pendUpgrade (s : St) : (fire s).pendUpgrade = s.pendUpgrade := by rw [fire_frame]
@[simp] theorem fire_pendConnect (s : St) : (fire s).pendConnect = s.pendConnect := by rw [fire_frame]
@[simp] theorem fire_waiting100 (s : St) : (fire s).waiting100 = s.waiting100 := by rw [fire_frame]

theorem fire_client_error (s : St) (h : s.client = .error) : (fire s).client = .error := (fire_error s h).1

/-- the state-triggered transitions leave the writer where it is or move it to MUST_CLOSE -/
theorem firePair_server_cases (p k : Bool) (c sv : HSt) : (firePair p k c sv).2 = sv ∨ (firePair p k c sv).2 = .mustClose :=
  firePair_forall (fun _ _ _ sv r => r.2 = sv ∨ r.2 = .mustClose) (by decide +kernel) p k c sv

theorem fire_notBad (s : St) (h : NotBad s.server) : (fire s).server = s.server := fire_server s h.2.1 h.1

/-- the writer-side targets of every event but EndOfMessage / ConnectionClosed are SEND_RESPONSE, SEND_BODY or SWITCHED_PROTOCOL -/
theorem server_target (st sv : HSt) (k : EvKey) (h : lookupEvent .server st k = some sv)
    (hk : k = .info ∨ k = .response ∨ k = .data ∨ k = .infoSwitchUpgrade ∨ k = .responseSwitchConnect) :
    sv = .sendResponse ∨ sv = .sendBody ∨ sv = .switched :=
  lookupEvent_forall
    (fun r _ k t => r = .server → (k = .info ∨ k = .response ∨ k = .data ∨ k = .infoSwitchUpgrade ∨ k = .responseSwitchConnect) →
      ∀ sv ∈ t, sv = .sendResponse ∨ sv = .sendBody ∨ sv = .switched)
    (by decide +kernel) .server st k rfl hk sv h

theorem notBad_of_target (sv : HSt) (h : sv = .sendResponse ∨ sv = .sendBody ∨ sv = .switched) : NotBad sv := by
  rcases h with rfl | rfl | rfl <;> exact ⟨by decide, by decide, by decide⟩

/-- what an accepted writer-side step leaves behind -/
theorem stepServer_after (s s' : St) (k : EvKey) (h : stepServer s k = some s')
    (hk : k = .info ∨ k = .response ∨ k = .data ∨ k = .infoSwitchUpgrade ∨ k = .responseSwitchConnect) :
    NotBad s'.server ∧ s'.waiting100 = s.waiting100 ∧ (s.client = .error → s'.client = .error) ∧ (s'.client = .idle → s.client = .idle) ∧
    s'.keepAlive = s.keepAlive := by
  have hidle := stepServer_idle s s' k h
  obtain ⟨sv, hsv, rfl⟩ := stepServer_eq h
  have hnb := notBad_of_target sv (server_target _ _ _ hsv hk)
  refine ⟨?_, by simp, fun hc => fire_client_error _ (by simpa using hc), hidle, by simp⟩
  rw [fire_notBad _ (by simpa using hnb)]; simpa using hnb

theorem stepServer_eom_after (s s' : St) (h : stepServer s .eom = some s') :
    s'.waiting100 = s.waiting100 ∧ (s.client = .error → s'.client = .error) ∧ (s'.client = .idle → s.client = .idle) := by
  have hidle := stepServer_idle s s' .eom h
  obtain ⟨sv, hsv, rfl⟩ := stepServer_eq h
  exact ⟨by simp, fun hc => fire_client_error _ (by simpa using hc), hidle⟩

theorem keepAliveDisabled_after (s : St) (h : NotBad s.server) :
    (keepAliveDisabled s).server = s.server ∧ (keepAliveDisabled s).waiting100 = s.waiting100 ∧
    (s.client = .error → (keepAliveDisabled s).client = .error) ∧ ((keepAliveDisabled s).client = .idle → s.client = .idle) := by
  unfold keepAliveDisabled
  refine ⟨?_, by rw [fire_waiting100]; rfl, ?_, ?_⟩
  · rw [fire_notBad _ (by simpa [St.withKeepAliveOff] using h)]; rfl
  · intro hc; exact fire_client_error _ (by simpa [St.withKeepAliveOff] using hc)
  · intro hi; simpa using fire_idle _ hi

theorem sendInfo_after (s s' : St) (n : Nat) (h : sendInfo s n = some s') :
    NotBad s'.server ∧ s'.waiting100 = false ∧ (s.client = .error → s'.client = .error) ∧ (s'.client = .idle → s.client = .idle) := by
  obtain ⟨s1, k, h1, hk, rfl⟩ := sendInfo_eq h
  have a := stepServer_after s s1 k h1 (by rcases hk with rfl | rfl <;> simp)
  exact ⟨a.1, rfl, a.2.2.1, a.2.2.2.1⟩

theorem sendData_after (s s' : St) (h : sendData s = some s') :
    NotBad s'.server ∧ s'.waiting100 = s.waiting100 ∧ (s.client = .error → s'.client = .error) ∧ (s'.client = .idle → s.client = .idle) := by
  have a := stepServer_after s s' _ (sendData_eq h) (by simp)
  exact ⟨a.1, a.2.1, a.2.2.1, a.2.2.2.1⟩

theorem sendEom_after (s s' : St) (h : sendEom s = some s') :
    s'.waiting100 = s.waiting100 ∧ (s.client = .error → s'.client = .error) ∧ (s'.client = .idle → s.client = .idle) :=
  stepServer_eom_after s s' (sendEom_eq h)

theorem sendResponse_after (s s' : St) (r : RespInfo) (h : sendResponse s r = some s') :
    NotBad s'.server ∧ s'.waiting100 = false ∧ (s.client = .error → s'.client = .error) ∧ (s'.client = .idle → s.client = .idle) := by
  obtain ⟨s1, k, h1, hk, rfl⟩ := sendResponse_eq h
  have a := stepServer_after s s1 k h1 (by rcases hk with rfl | rfl <;> simp)
  split
  · have b := keepAliveDisabled_after (s1.withWaiting false) a.1
    exact ⟨by rw [b.1]; exact a.1, by rw [b.2.1]; rfl, fun hc => b.2.2.1 (a.2.2.1 hc), fun hi => a.2.2.2.1 (b.2.2.2 hi)⟩
  · exact ⟨a.1, rfl, a.2.2.1, a.2.2.2.1⟩

theorem sendFailed_after (s : St) :
    (sendFailed s).server = .error ∧ (sendFailed s).waiting100 = s.waiting100 ∧ (s.client = .error → (sendFailed s).client = .error) ∧
    ((sendFailed s).client = .idle → s.client = .idle) ∧ (sendFailed s).pendUpgrade = s.pendUpgrade := by
  unfold sendFailed processError
  refine ⟨?_, by simp, ?_, ?_, by simp⟩
  · rw [fire_server _ (by simp) (by simp)]; rfl
  · intro hc; exact fire_client_error _ (by simpa using hc)
  · intro hi; simpa using fire_idle _ hi

/-- no call of `_send_h11_event` moves the reader side to IDLE or out of ERROR, or raises the 100-continue flag -/
theorem LibCall.after {s s' : St} (h : LibCall s s') :
    (s'.client = .idle → s.client = .idle) ∧ (s.client = .error → s'.client = .error) ∧ (s'.waiting100 = true → s.waiting100 = true) := by
  cases h with
  | info h => have a := sendInfo_after _ _ _ h; exact ⟨a.2.2.2, a.2.2.1, fun hw => by rw [a.2.1] at hw; cases hw⟩
  | response h => have a := sendResponse_after _ _ _ h; exact ⟨a.2.2.2, a.2.2.1, fun hw => by rw [a.2.1] at hw; cases hw⟩
  | data h => have a := sendData_after _ _ h; exact ⟨a.2.2.2, a.2.2.1, fun hw => a.2.1 ▸ hw⟩
  | eom h => have a := sendEom_after _ _ h; exact ⟨a.2.2, a.2.1, fun hw => a.1 ▸ hw⟩
  | failed => have a := sendFailed_after s; exact ⟨a.2.2.2.1, a.2.2.1, fun hw => a.2.1 ▸ hw⟩

/-! ### sends that h11 accepts -/

theorem sendInfo_ok (s : St) (n : Nat) (hs : s.server = .sendResponse) (hn : n = 101 → s.pendUpgrade = true) :
    ∃ s', sendInfo s n = some s' ∧ s'.server = (if n = 101 then .switched else .sendResponse) ∧ s'.pendUpgrade = s.pendUpgrade := by
  unfold sendInfo
  simp only [hs]
  by_cases h101 : n = 101
  · have hp := hn h101
    have hl : lookupEvent .server .sendResponse .infoSwitchUpgrade = some .switched := by decide
    have hb : (EvKey.infoSwitchUpgrade == EvKey.response) = false := by decide
    refine ⟨_, by simp [h101, stepServer, hp, hs, hl, hb]; rfl, ?_, ?_⟩
    · simp only [h101, if_true, St.withWaiting]
      rw [fire_server _ (by simp) (by simp)]; simp
    · simp [St.withWaiting]
  · have hl : lookupEvent .server .sendResponse .info = some .sendResponse := by decide
    have hb : (EvKey.info == EvKey.response) = false := by decide
    refine ⟨_, by simp [h101, stepServer, hs, hl, hb]; rfl, ?_, ?_⟩
    · simp only [h101, if_false, St.withWaiting]
      rw [fire_server _ (by simp) (by simp)]; simp
    · simp [St.withWaiting]

theorem sendResponse_ok (s : St) (r : RespInfo) (hs : s.server = .sendResponse) :
    ∃ s', sendResponse s r = some s' ∧
      (¬ (s.pendConnect = true ∧ 200 ≤ r.status ∧ r.status < 300) → s'.server = .sendBody) := by
  unfold sendResponse
  simp only [hs]
  by_cases hc : s.pendConnect = true ∧ 200 ≤ r.status ∧ r.status < 300
  · have hk : (s.pendConnect && decide (200 ≤ r.status) && decide (r.status < 300)) = true := by simp [hc.1, hc.2.1, hc.2.2]
    have hl : lookupEvent .server .sendResponse .responseSwitchConnect = some .switched := by decide
    have hb : (EvKey.responseSwitchConnect == EvKey.response) = false := by decide
    have h1 : stepServer s .responseSwitchConnect = some (fire ((s.clearPend false).set .server .switched)) := by
      simp [stepServer, hc.1, hs, hl, hb]
    simp only [hk, if_true, h1]
    exact ⟨_, rfl, fun h => absurd hc h⟩
  · have hk : (s.pendConnect && decide (200 ≤ r.status) && decide (r.status < 300)) = false := by
      cases hp : s.pendConnect <;> simp_all <;> omega
    have hl : lookupEvent .server .sendResponse .response = some .sendBody := by decide
    have h1 : stepServer s .response = some (fire ((s.clearPend true).set .server .sendBody)) := by
      simp [stepServer, hs, hl]
    simp only [hk, Bool.false_eq_true, if_false, h1]
    refine ⟨_, rfl, fun _ => ?_⟩
    have hsv : (fire ((s.clearPend true).set .server .sendBody)).server = .sendBody := by
      rw [fire_server _ (by simp) (by simp)]; simp
    split
    · have b := keepAliveDisabled_after ((fire ((s.clearPend true).set .server .sendBody)).withWaiting false)
        (by simp only [St.withWaiting_server, hsv]; exact ⟨by decide, by decide, by decide⟩)
      rw [b.1]; simpa using hsv
    · simpa using hsv

theorem sendEom_ok (s : St) (hs : s.server = .sendBody) : ∃ s', sendEom s = some s' := by
  have hl : lookupEvent .server .sendBody .eom = some .done := by decide
  exact ⟨_, by simp [sendEom, hs, stepServer, hl]; rfl⟩

theorem sendData_ok (s : St) (hs : s.server = .sendBody) : ∃ s', sendData s = some s' ∧ s'.server = .sendBody := by
  have hl : lookupEvent .server .sendBody .data = some .sendBody := by decide
  refine ⟨_, by simp [sendData, hs, stepServer, hl]; rfl, ?_⟩
  rw [fire_server _ (by simp) (by simp)]; simp

/-! ### the reader side -/

/-- a `Request` leaves the writer in SEND_RESPONSE, registers the upgrade proposal and leaves the reader side past IDLE -/
theorem recvRequest_after (s s' : St) (r : ReqInfo) (h : recvRequest s r = some s') :
    s'.server = .sendResponse ∧ (r.hasUpgrade = true → s'.pendUpgrade = true) ∧ s'.client ≠ .idle := by
  obtain ⟨s1, hs1, rfl⟩ := recvRequest_eq h
  obtain ⟨c, sv, hc, hsv, hs1⟩ := stepRequest_eq hs1
  have hsv' : sv = .sendResponse :=
    lookupEvent_forall (fun r _ k t => r = .server → k = .requestClient → ∀ sv ∈ t, sv = .sendResponse) (by decide +kernel)
      .server _ .requestClient rfl rfl sv hsv
  subst hsv'
  -- `s1`: the state the machine accepted the `Request` in, before `afterRequest`'s bookkeeping
  have h1s : s1.server = .sendResponse := by
    subst hs1; rw [fire_server _ (by simp) (by simp)]; simp
  have h1c : s1.client ≠ .idle := by
    subst hs1
    intro hi
    have := fire_idle _ hi
    simp at this
    exact event_not_to_idle _ _ _ hc this
  have h1p : r.hasUpgrade = true → s1.pendUpgrade = true := by
    intro hu
    subst hs1
    simp [proposals, hu, St.withPendUpgrade, St.set]
  -- `afterRequest`: flags, and keep-alive switched off, which moves neither the writer out of SEND_RESPONSE nor the reader to IDLE
  have hoff : ∀ x : St, x.server = .sendResponse → x.client ≠ .idle →
      (keepAliveDisabled x).server = .sendResponse ∧ (keepAliveDisabled x).client ≠ .idle ∧ (keepAliveDisabled x).pendUpgrade = x.pendUpgrade := by
    intro x hx hxc
    have b := keepAliveDisabled_after x (by rw [hx]; exact ⟨by decide, by decide, by decide⟩)
    exact ⟨by rw [b.1, hx], fun hi => hxc (b.2.2.2 hi), by unfold keepAliveDisabled; rw [fire_pendUpgrade]; rfl⟩
  have h2 : ∀ x : St, (x = s1.withReq r.isHead r.isConnect r.http10 ∨ x = keepAliveDisabled (s1.withReq r.isHead r.isConnect r.http10)) →
      x.server = .sendResponse ∧ (r.hasUpgrade = true → x.pendUpgrade = true) ∧ x.client ≠ .idle := by
    rintro x (rfl | rfl)
    · exact ⟨h1s, h1p, h1c⟩
    · have b := hoff (s1.withReq r.isHead r.isConnect r.http10) h1s h1c
      exact ⟨b.1, fun hu => by rw [b.2.2]; exact h1p hu, b.2.1⟩
  obtain ⟨x, hx, ha⟩ := afterRequest_cases s1 r
  rcases ha with ha | ha <;> rw [ha]
  · exact h2 x hx
  · exact h2 x hx

/-- Data / EndOfMessage / ConnectionClosed received (h11 takes none of them with the reader side in ERROR): a writer in
    SEND_RESPONSE / SEND_BODY / SWITCHED / ERROR / CLOSED stays where it is, the reader side is not IDLE afterwards -/
theorem stepClient_after (s s' : St) (k : EvKey) (h : stepClient s k = some s') :
    (NotBad s.server → s'.server = s.server) ∧ s'.client ≠ .idle ∧ s.client ≠ .error ∧ s'.waiting100 = s.waiting100 ∧
    s'.pendUpgrade = s.pendUpgrade := by
  obtain ⟨c, hc, rfl⟩ := stepClient_eq h
  refine ⟨fun hnb => ?_, ?_, ?_, by simp, by simp⟩
  · rw [fire_notBad _ (by simpa using hnb)]; simp
  · intro hi
    have := fire_idle _ hi
    simp at this
    exact event_not_to_idle _ _ _ hc this
  · intro he; rw [he, no_event_from_error] at hc; cases hc

theorem recvError_after (s : St) :
    (recvError s).client = .error ∧ (NotBad s.server → (recvError s).server = s.server) ∧ (recvError s).waiting100 = s.waiting100 ∧
    ((recvError s).server = .idle ∨ (recvError s).server = .sendResponse → (recvError s).server = s.server) := by
  unfold recvError processError
  have e := fire_error (s.set .client .error) rfl
  have hsv : (s.set .client .error).server = s.server := rfl
  refine ⟨e.1, fun hnb => ?_, rfl, ?_⟩
  · rw [e.2, if_neg (by rw [hsv]; exact hnb.2.1)]; rfl
  · by_cases hd : s.server = .done
    · rw [e.2, if_pos (by rw [hsv]; exact hd)]; intro h; rcases h with h | h <;> cases h
    · rw [e.2, if_neg (by rw [hsv]; exact hd)]; intro _; rfl

end HC.Lib.H11M
