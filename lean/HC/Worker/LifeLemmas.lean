import HC.Worker.Run
/-!
# HC.Worker.LifeLemmas — what every scheduling of the lifespan task preserves

Helper lemmas (no property theorem lives here): the invariant `LifeOk` of the `Life` record and its preservation by
`Life.appStep` (`Running`, `runApp_ok`), and what a scheduling does to the record besides (`RunFacts`), both by the functional
induction of `Life.runApp`.
-/
namespace HC.Worker

def Life.failedSent (l : Life) : Stage → Bool
  | .startup => l.startupFailedSent
  | .shutdown => l.shutdownFailedSent

structure LifeOk (rt : Runtime) (l : Life) : Prop where
  -- the `startup` event is set by `lifespan.startup.complete`, by the leaving task (the `finally:` of `handle_lifespan`) or,
  -- on a runtime with `failedSetsEvent`, by `lifespan.startup.failed`, whose exception is then in flight
  startupWhy : l.startup = true → l.completeSeen = true ∨ l.exited = true ∨
    (rt.failedSetsEvent = true ∧ l.pending = some (.failure .startup))
  shutdownWhy : l.shutdown = true → l.shutdownCompleteSeen = true ∨ l.exited = true ∨
    (rt.failedSetsEvent = true ∧ l.pending = some (.failure .shutdown))
  completeStartup : l.completeSeen = true → l.startup = true
  -- a `LifespanFailureError` in flight comes from a `lifespan.<st>.failed` that was sent
  pendingFailed : ∀ st, l.pending = some (.failure st) → l.failedSent st = true
  -- the only exception a lifespan task ends with is such a failure (any other made the application unsupported)
  exitingRes : ∀ e, l.exiting = some (some e) → ∃ st, e = .lifespanFailure st ∧ l.failedSent st = true
  doneRes : ∀ e, l.taskDone = some (some e) → ∃ st, e = .lifespanFailure st ∧ l.failedSent st = true
  -- the `finally:`: both events set, nothing left to run
  exitedEvents : l.exited = true → l.startup = true ∧ l.shutdown = true ∧ l.pending = none ∧ l.script = []
  -- only a runtime with `exitCheckpoints` (trio) has a task that has left but is not over; its result is not visible yet
  exitingFlag : l.exiting.isSome = true → rt.exitCheckpoints = true ∧ l.taskDone = none
  -- the channels are closed by the leaving task, on the runtimes that do so (`channelsClosedOnExit`), and on those always
  closedWhy : l.channelsClosed = true → l.exited = true ∧ rt.channelsClosedOnExit = true
  closedIf : rt.channelsClosedOnExit = true → l.exited = true → l.channelsClosed = true
  -- `supported = False` is set on the way out only
  unsupportedWhy : l.supported = false → l.exited = true
  -- an exception other than a lifespan failure before `startup.complete`: unsupported, and the task ends without an error
  raisedBC : l.raisedBeforeComplete = true → l.supported = false ∧ l.completeSeen = false ∧
    l.exiting ≠ some (some (.lifespanFailure .startup)) ∧ (∀ e, l.exiting ≠ some (some e)) ∧ (∀ e, l.taskDone ≠ some (some e))
  -- `startup.failed` before `startup.complete`: still supported, and the failure is in flight or is the task's result
  failedBC : l.failedBeforeComplete = true → l.startupFailedSent = true ∧ l.completeSeen = false ∧ l.supported = true ∧
    (l.pending = some (.failure .startup) ∨ l.exiting = some (some (.lifespanFailure .startup)) ∨
     l.taskDone = some (some (.lifespanFailure .startup)))
  -- before its first scheduling the task has done nothing
  notStarted : l.started = false → l.exited = false ∧ l.startup = false ∧ l.shutdown = false ∧ l.recvd = [] ∧
    l.completeSeen = false ∧ l.failedBeforeComplete = false ∧ l.raisedBeforeComplete = false

theorem lifeOk_init (rt : Runtime) (script : List LAct) (cap : Nat) : LifeOk rt (Life.init script cap) := by
  constructor <;> simp [Life.init, Life.exited, Life.failedSent]

theorem exited_false_iff (l : Life) : l.exited = false ↔ l.taskDone = none ∧ l.exiting = none := by
  cases hd : l.taskDone <;> cases he : l.exiting <;> simp [Life.exited, hd, he]

/-- The lifespan task while it runs inside the application: started and not yet left.  In that situation `LifeOk` comes down
    to these facts, and every action of the application changes only the last five. -/
structure Running (rt : Runtime) (l : Life) : Prop where
  taskDone : l.taskDone = none
  exiting : l.exiting = none
  started : l.started = true
  supported : l.supported = true
  channelsOpen : l.channelsClosed = false
  notRaised : l.raisedBeforeComplete = false
  startupWhy : l.startup = true → l.completeSeen = true ∨ (rt.failedSetsEvent = true ∧ l.pending = some (.failure .startup))
  shutdownWhy : l.shutdown = true →
    l.shutdownCompleteSeen = true ∨ (rt.failedSetsEvent = true ∧ l.pending = some (.failure .shutdown))
  completeStartup : l.completeSeen = true → l.startup = true
  pendingFailed : ∀ st, l.pending = some (.failure st) → l.failedSent st = true
  failedBC : l.failedBeforeComplete = true →
    l.startupFailedSent = true ∧ l.completeSeen = false ∧ l.pending = some (.failure .startup)

/-- a task that has not left is running as soon as it is scheduled -/
theorem LifeOk.running {rt : Runtime} {l : Life} (h : LifeOk rt l) (hx : l.exited = false) :
    Running rt { l with started := true, sleeping := false } := by
  obtain ⟨hd, he⟩ := (exited_false_iff l).1 hx
  have hne : ¬ l.exited = true := by simp [hx]
  have hsup : l.supported = true := by
    cases hs : l.supported
    · exact absurd (h.unsupportedWhy hs) hne
    · rfl
  refine ⟨hd, he, rfl, hsup, ?_, ?_, ?_, ?_, h.completeStartup, h.pendingFailed, ?_⟩
  · cases hc : l.channelsClosed
    · rfl
    · exact absurd (h.closedWhy hc).1 hne
  · cases hr : l.raisedBeforeComplete
    · rfl
    · have := (h.raisedBC hr).1; rw [hsup] at this; cases this
  · intro hs
    rcases h.startupWhy hs with h1 | h1 | h1
    · exact Or.inl h1
    · exact absurd h1 hne
    · exact Or.inr h1
  · intro hs
    rcases h.shutdownWhy hs with h1 | h1 | h1
    · exact Or.inl h1
    · exact absurd h1 hne
    · exact Or.inr h1
  · intro hf
    obtain ⟨a, b, -, c | c | c⟩ := h.failedBC hf
    · exact ⟨a, b, c⟩
    · rw [he] at c; cases c
    · rw [hd] at c; cases c

theorem Running.ok {rt : Runtime} {l : Life} (h : Running rt l) : LifeOk rt l := by
  have hne : ¬ l.exited = true := by simp [Life.exited, h.taskDone, h.exiting]
  exact {
    startupWhy := fun hs => (h.startupWhy hs).elim Or.inl (Or.inr ∘ Or.inr)
    shutdownWhy := fun hs => (h.shutdownWhy hs).elim Or.inl (Or.inr ∘ Or.inr)
    completeStartup := h.completeStartup
    pendingFailed := h.pendingFailed
    exitingRes := fun e he => by rw [h.exiting] at he; cases he
    doneRes := fun e he => by rw [h.taskDone] at he; cases he
    exitedEvents := fun hx => absurd hx hne
    exitingFlag := fun he => by simp [h.exiting] at he
    closedWhy := fun hc => by rw [h.channelsOpen] at hc; cases hc
    closedIf := fun _ hx => absurd hx hne
    unsupportedWhy := fun hs => by rw [h.supported] at hs; cases hs
    raisedBC := fun hr => by rw [h.notRaised] at hr; cases hr
    failedBC := fun hf => ⟨(h.failedBC hf).1, (h.failedBC hf).2.1, h.supported, Or.inl (h.failedBC hf).2.2⟩
    notStarted := fun hs => by rw [h.started] at hs; cases hs }

/-- with no exception in flight the events are set only by the `complete` messages, and no failure has been sent -/
theorem Running.idle {rt : Runtime} {l : Life} (h : Running rt l) (hp : l.pending = none) :
    (l.startup = true → l.completeSeen = true) ∧ (l.shutdown = true → l.shutdownCompleteSeen = true) ∧
    l.failedBeforeComplete = false := by
  refine ⟨fun hs => ?_, fun hs => ?_, ?_⟩
  · rcases h.startupWhy hs with h1 | ⟨_, h1⟩
    · exact h1
    · rw [hp] at h1; cases h1
  · rcases h.shutdownWhy hs with h1 | ⟨_, h1⟩
    · exact h1
    · rw [hp] at h1; cases h1
  · cases hf : l.failedBeforeComplete
    · rfl
    · have := (h.failedBC hf).2.2; rw [hp] at this; cases this

theorem Running.startupComplete {rt : Runtime} {l : Life} (h : Running rt l) (hp : l.pending = none) :
    Running rt { l with startup := true, completeSeen := true } :=
  { h with
    startupWhy := fun _ => Or.inl rfl
    completeStartup := fun _ => rfl
    failedBC := fun hf => by rw [(h.idle hp).2.2] at hf; cases hf }

theorem Running.shutdownComplete {rt : Runtime} {l : Life} (h : Running rt l) :
    Running rt { l with shutdown := true, shutdownCompleteSeen := true } :=
  { h with shutdownWhy := fun _ => Or.inl rfl }

theorem Running.startupFailed {rt : Runtime} {l : Life} (h : Running rt l) (hp : l.pending = none) :
    Running rt { l with startup := l.startup || rt.failedSetsEvent, pending := some (.failure .startup),
                        failedBeforeComplete := l.failedBeforeComplete || !l.completeSeen, startupFailedSent := true } :=
  { h with
    startupWhy := fun hs => by
      rcases Bool.or_eq_true_iff.mp hs with hs | hs
      · exact Or.inl ((h.idle hp).1 hs)
      · exact Or.inr ⟨hs, rfl⟩
    shutdownWhy := fun hs => Or.inl ((h.idle hp).2.1 hs)
    completeStartup := fun hc => by rw [h.completeStartup hc]; rfl
    pendingFailed := fun st hst => by cases hst; rfl
    failedBC := fun hf => by
      rw [(h.idle hp).2.2] at hf
      exact ⟨rfl, by simpa using hf, rfl⟩ }

theorem Running.shutdownFailed {rt : Runtime} {l : Life} (h : Running rt l) (hp : l.pending = none) :
    Running rt { l with shutdown := l.shutdown || rt.failedSetsEvent, pending := some (.failure .shutdown),
                        shutdownFailedSent := true } :=
  { h with
    startupWhy := fun hs => Or.inl ((h.idle hp).1 hs)
    shutdownWhy := fun hs => by
      rcases Bool.or_eq_true_iff.mp hs with hs | hs
      · exact Or.inl ((h.idle hp).2.1 hs)
      · exact Or.inr ⟨hs, rfl⟩
    pendingFailed := fun st hst => by cases hst; rfl
    failedBC := fun hf => by rw [(h.idle hp).2.2] at hf; cases hf }

theorem Running.other {rt : Runtime} {l : Life} (h : Running rt l) (hp : l.pending = none) :
    Running rt { l with pending := some .other } :=
  { h with
    startupWhy := fun hs => Or.inl ((h.idle hp).1 hs)
    shutdownWhy := fun hs => Or.inl ((h.idle hp).2.1 hs)
    pendingFailed := fun st hst => by cases hst
    failedBC := fun hf => by rw [(h.idle hp).2.2] at hf; cases hf }

/-- leaving the application with whatever exception is in flight: the events are set, a `LifespanFailureError` becomes
    the task's result (it was sent: `pendingFailed`), any other exception ends lifespan support -/
theorem Running.finish {rt : Runtime} {l : Life} (h : Running rt l) : LifeOk rt (l.finish rt l.pending) := by
  obtain ⟨hd, he, hst, hsup, hcl, hrb, -, -, -, hpf, hfb⟩ := h
  have hnf : l.pending ≠ some (.failure .startup) → l.failedBeforeComplete = false := by
    intro hne
    cases hf : l.failedBeforeComplete
    · rfl
    · exact absurd (hfb hf).2.2 hne
  unfold Life.finish
  -- in each case the facts about the old record are equations: every field of `LifeOk` is a computation on the new one
  rcases hp : l.pending with _ | (st | _)
  · have hf := hnf (by rw [hp]; nofun)
    cases hec : rt.exitCheckpoints <;> constructor <;> simp [Life.exited, hd, he, hst, hsup, hcl, hrb, hf, hec]
  · have hs := hpf st hp
    simp only [Life.failedSent] at hs
    -- if the flag is set the failure in flight is the start-up one (`hfb` with `hp`): `failedBC` needs it (the result is then
    -- `lifespanFailure .startup`), `exitingRes`/`doneRes` need `hs`
    cases hec : rt.exitCheckpoints <;> constructor <;>
      simp [Life.exited, Life.failedSent, hd, he, hst, hsup, hcl, hrb, hs, hec] <;> grind
  · have hf := hnf (by rw [hp]; nofun)
    cases hec : rt.exitCheckpoints <;> constructor <;> simp [Life.exited, hd, he, hst, hcl, hrb, hf, hec]

theorem runApp_ok (rt : Runtime) (acts : List LAct) (l : Life) (h : Running rt l) : LifeOk rt (Life.runApp rt l acts) := by
  -- the cases of `Life.runApp`: 1 the script is over; 2, 3 an exception is in flight (suspension in clean-up / it leaves);
  -- 4, 5 `recv` (empty queue / a message); 6-9 the four sends; 10, 11 `sendUnknown`, `raise`; 12 `hang`; 13 `ret`;
  -- 14 `awaitInCleanup`
  fun_induction Life.runApp rt l acts with
  | case1 l => exact h.finish
  | case2 l rest e hp => exact Running.ok { h with }
  | case3 l a rest e hp => rw [← hp]; exact h.finish
  | case4 l rest hp hq => exact Running.ok { h with }
  | case5 l rest hp m q hq ih => exact ih { h with }
  | case6 l rest hp ih => exact ih (h.startupComplete hp)
  | case7 l rest hp ih => exact ih h.shutdownComplete
  | case8 l rest hp ih => exact ih (h.startupFailed hp)
  | case9 l rest hp ih => exact ih (h.shutdownFailed hp)
  | case10 l rest hp ih => exact ih (h.other hp)
  | case11 l rest hp ih => exact ih (h.other hp)
  | case12 l rest hp => exact Running.ok { h with }
  | case13 l rest hp => rw [← hp]; exact h.finish
  | case14 l rest hp => exact Running.ok { h with }

/-- one scheduling of the lifespan task: the last `aclose()` checkpoint of a task that has left, or a run of the application -/
theorem appStep_cases {rt : Runtime} {l l' : Life} (h : l.appStep rt = some l') :
    (∃ r, l.taskDone = none ∧ l.exiting = some r ∧ l' = { l with exiting := none, taskDone := some r }) ∨
    (l.taskDone = none ∧ l.exiting = none ∧ l' = Life.runApp rt { l with started := true, sleeping := false } l.script) := by
  unfold Life.appStep at h
  split at h
  · cases h
  · rename_i hd
    have hd : l.taskDone = none := by simpa using hd
    split at h
    · rename_i r hr
      exact Or.inl ⟨r, hd, hr, (Option.some.inj h).symm⟩
    · rename_i he
      split at h
      · cases h
      · exact Or.inr ⟨hd, he, (Option.some.inj h).symm⟩

theorem appStep_ok (rt : Runtime) (l l' : Life) (h : LifeOk rt l) (hs : l.appStep rt = some l') : LifeOk rt l' := by
  rcases appStep_cases hs with ⟨r, hd, he, rfl⟩ | ⟨hd, he, rfl⟩
  · -- the result of a task that had left becomes visible: what held of `exiting` now holds of `taskDone`
    have hx := h.exitedEvents (by simp [Life.exited, he])
    exact { h with
      startupWhy := fun _ => Or.inr (Or.inl rfl)
      shutdownWhy := fun _ => Or.inr (Or.inl rfl)
      exitingRes := fun e h0 => by cases h0
      doneRes := fun e h0 => h.exitingRes e (he.trans h0)
      exitedEvents := fun _ => hx
      exitingFlag := fun h0 => by cases h0
      closedWhy := fun hc => ⟨rfl, (h.closedWhy hc).2⟩
      closedIf := fun hc _ => h.closedIf hc (by simp [Life.exited, he])
      unsupportedWhy := fun _ => rfl
      raisedBC := fun hr => by
        obtain ⟨a, b, -, c, -⟩ := h.raisedBC hr
        exact ⟨a, b, by simp, by simp, fun e h0 => c e (he.trans h0)⟩
      failedBC := fun hf => by
        obtain ⟨a, b, c, d⟩ := h.failedBC hf
        refine ⟨a, b, c, ?_⟩
        rcases d with d | d | d
        · exact Or.inl d
        · exact Or.inr (Or.inr (he.symm.trans d))
        · rw [hd] at d; cases d
      notStarted := fun hs => by
        have := (h.notStarted hs).1
        simp [Life.exited, he] at this }
  · exact runApp_ok rt _ _ (h.running ((exited_false_iff l).2 ⟨hd, he⟩))

/-- what a run of the application does to the record, besides keeping `LifeOk`: receiving only moves messages from the
    queue to the received list; `supported` is never set back; `startup.complete` is not unseen; an exception in flight stays
    until the task leaves; `failedBeforeComplete` is set only by `lifespan.startup.failed` sent before any `startup.complete` -/
structure RunFacts (l r : Life) : Prop where
  queue : r.recvd ++ r.queue = l.recvd ++ l.queue
  cap : r.cap = l.cap
  supported : l.supported = false → r.supported = false
  complete : l.completeSeen = true → r.completeSeen = true
  pending : ∀ e, l.pending = some e → r.pending = some e ∨ r.exited = true
  failedBC : r.failedBeforeComplete = true → l.failedBeforeComplete = true ∨ (l.pending = none ∧ l.completeSeen = false)

theorem finish_facts (rt : Runtime) (l : Life) (out : Option AppExc) : RunFacts l (l.finish rt out) := by
  unfold Life.finish
  rcases out with _ | (st | _) <;> cases rt.exitCheckpoints <;>
    exact ⟨rfl, rfl, fun h => by first | exact h | rfl, id, fun _ _ => .inr (by simp [Life.exited]), .inl⟩

theorem runApp_facts (rt : Runtime) (acts : List LAct) (l : Life) : RunFacts l (Life.runApp rt l acts) := by
  -- while no exception is in flight (`hp`) the `pending` clause is void, and so is the second way to `failedBeforeComplete`
  -- once one is, or once `startup.complete` is seen
  fun_induction Life.runApp rt l acts with
  | case1 l => exact finish_facts rt l _
  | case2 l rest e hp => exact ⟨rfl, rfl, id, id, fun _ h => .inl h, .inl⟩
  | case3 l a rest e hp => exact finish_facts rt l _
  | case4 l rest hp hq => exact ⟨rfl, rfl, id, id, fun _ h => .inl h, .inl⟩
  | case5 l rest hp m q hq ih =>
    exact { ih with queue := ih.queue.trans (by simp [hq]), pending := fun e he => (nomatch hp.symm.trans he) }
  | case6 l rest hp ih =>
    exact { ih with complete := fun _ => ih.complete rfl, pending := fun e he => (nomatch hp.symm.trans he)
                    failedBC := fun h => (ih.failedBC h).imp_right (fun h' => nomatch h'.2) }
  | case7 l rest hp ih => exact { ih with pending := fun e he => (nomatch hp.symm.trans he) }
  | case8 l rest hp ih =>
    refine { ih with pending := fun e he => (nomatch hp.symm.trans he), failedBC := fun h => ?_ }
    rcases ih.failedBC h with h' | h'
    · exact (Bool.or_eq_true_iff.mp h').imp_right (fun h'' => ⟨hp, by simpa using h''⟩)
    · exact nomatch h'.1
  | case9 l rest hp ih | case10 l rest hp ih | case11 l rest hp ih =>
    exact { ih with pending := fun e he => (nomatch hp.symm.trans he)
                    failedBC := fun h => (ih.failedBC h).imp_right (fun h' => nomatch h'.1) }
  | case12 l rest hp => exact ⟨rfl, rfl, id, id, fun _ h => .inl h, .inl⟩
  | case13 l rest hp => exact finish_facts rt l _
  | case14 l rest hp => exact ⟨rfl, rfl, id, id, fun _ h => .inl h, .inl⟩

theorem appStep_facts (rt : Runtime) (l l' : Life) (h : l.appStep rt = some l') : RunFacts l l' := by
  rcases appStep_cases h with ⟨r, -, -, rfl⟩ | ⟨-, -, rfl⟩
  · exact ⟨rfl, rfl, id, id, fun _ h => .inl h, .inl⟩
  · exact { runApp_facts rt l.script { l with started := true, sleeping := false } with }

theorem appStep_supported (rt : Runtime) (l l' : Life) (h : l.appStep rt = some l') (hs : l.supported = false) :
    l'.supported = false :=
  (appStep_facts rt l l' h).supported hs

theorem appStep_queue (rt : Runtime) (l l' : Life) (h : l.appStep rt = some l') :
    l'.recvd ++ l'.queue = l.recvd ++ l.queue ∧ l'.cap = l.cap :=
  ⟨(appStep_facts rt l l' h).queue, (appStep_facts rt l l' h).cap⟩

theorem appStep_mono (rt : Runtime) (l l' : Life) (h : l.appStep rt = some l') :
    (l.completeSeen = true → l'.completeSeen = true) ∧ (l.exited = true → l'.exited = true) ∧
    (∀ e, l.pending = some e → l'.pending = some e ∨ l'.exited = true) := by
  refine ⟨(appStep_facts rt l l' h).complete, fun hx => ?_, (appStep_facts rt l l' h).pending⟩
  -- a task that has left is only scheduled for its last checkpoint
  rcases appStep_cases h with ⟨r, -, -, rfl⟩ | ⟨hd, he, -⟩
  · rfl
  · rw [(exited_false_iff l).2 ⟨hd, he⟩] at hx; cases hx

theorem appStep_failedBC (rt : Runtime) (l l' : Life) (h : l.appStep rt = some l') (hf : l'.failedBeforeComplete = true) :
    l.failedBeforeComplete = true ∨ (l.pending = none ∧ l.completeSeen = false ∧ l.exited = false) := by
  rcases appStep_cases h with ⟨r, -, -, rfl⟩ | ⟨hd, he, rfl⟩
  · exact .inl hf
  · exact ((runApp_facts rt l.script _).failedBC hf).imp_right
      (fun h' => ⟨h'.1, h'.2, (exited_false_iff l).2 ⟨hd, he⟩⟩)

/-- `lifespan.startup.failed` immediately followed by a suspension of the application (the F16 shape) -/
def failedThenAwait : List LAct → Bool
  | [] => false
  | a :: rest => (a == .sendStartupFailed && rest.head? == some .awaitInCleanup) || failedThenAwait rest

/-- the application never suspends with `LifespanFailureError("startup")` in flight unless the script says so -/
theorem runApp_nostuck (rt : Runtime) (acts : List LAct) (l : Life) (hf : failedThenAwait acts = false)
    (hh : l.pending = some (.failure .startup) → acts.head? ≠ some .awaitInCleanup) :
    failedThenAwait (Life.runApp rt l acts).script = false ∧ (Life.runApp rt l acts).pending ≠ some (.failure .startup) := by
  have hfin : ∀ (l : Life) out, failedThenAwait (l.finish rt out).script = false ∧
      (l.finish rt out).pending ≠ some (.failure .startup) := by
    intro l out
    unfold Life.finish
    cases rt.exitCheckpoints <;> exact ⟨rfl, nofun⟩
  fun_induction Life.runApp rt l acts with
  | case1 l | case3 l a rest e hp | case13 l rest hp => exact hfin l _
  | case2 l rest e hp =>
    simp only [failedThenAwait, Bool.or_eq_false_iff] at hf
    exact ⟨hf.2, fun hc => hh hc rfl⟩
  | case4 l rest hp hq | case12 l rest hp => exact ⟨hf, fun hc => (nomatch hp.symm.trans hc)⟩
  | case14 l rest hp =>
    simp only [failedThenAwait, Bool.or_eq_false_iff] at hf
    exact ⟨hf.2, fun hc => (nomatch hp.symm.trans hc)⟩
  | case8 l rest hp ih =>
    -- the one action that puts that exception in flight: the script does not go on with a suspension
    simp only [failedThenAwait, Bool.or_eq_false_iff] at hf
    exact ih hf.2 (fun _ => by simpa using hf.1)
  | case5 l rest hp m q hq ih | case6 l rest hp ih | case7 l rest hp ih =>
    simp only [failedThenAwait, Bool.or_eq_false_iff] at hf
    exact ih hf.2 (fun hc => (nomatch hp.symm.trans hc))
  | case9 l rest hp ih | case10 l rest hp ih | case11 l rest hp ih =>
    simp only [failedThenAwait, Bool.or_eq_false_iff] at hf
    exact ih hf.2 nofun

theorem appStep_nostuck (rt : Runtime) (l l' : Life) (h : l.appStep rt = some l')
    (h1 : failedThenAwait l.script = false) (h2 : l.pending ≠ some (.failure .startup)) :
    failedThenAwait l'.script = false ∧ l'.pending ≠ some (.failure .startup) := by
  rcases appStep_cases h with ⟨r, -, -, rfl⟩ | ⟨-, -, rfl⟩
  · exact ⟨h1, h2⟩
  · exact runApp_nostuck rt l.script { l with started := true, sleeping := false } h1 (fun hc => absurd hc h2)

end HC.Worker
