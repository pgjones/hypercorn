import HC.Worker.Lifespan
/-!
# BlockedWrite — one connection handler whose write is held up by a peer that does not read, at the end of the grace period

The worker model (`HC.Worker.Run`) lets a cancelled handler end at once; that is what the code does for handlers waiting on
the application, on the client's next bytes or on HTTP/2 flow control.  It is **not** what the code does for a handler whose
application sits in `send()` behind a *transport* write (socket buffers full, peer not reading):

* asyncio (`asyncio/tcp_server.py`): the cancellation is delivered, `run()`'s `finally: await self._close()` calls
  `writer.close()` and awaits `writer.wait_closed()`, which returns when the transport has flushed what is buffered;
  `worker_serve`'s `wait_for(gather(handlers), graceful_timeout)` waits for the cancellation to complete;
* trio (`trio/tcp_server.py`): `protocol_send` runs `stream.send_all` inside a shielded cancel scope: the nursery's deadline
  does not interrupt it, `Cancelled` is delivered when `send_all` returns.

Both facts are extracted (`Guards.asyncioCloseWaitsForFlush`, `Guards.trioSendShielded` → `Runtime.blockedWriteOutlivesCancel`)
and measured by the `noread_h1` scenarios of C15's correspondence run.  This file is the small model of that one handler;
`HC/Props/C15.lean` states what it means for `bounded` (known finding F113).
-/
namespace HC.Worker.BlockedWrite
open HC.Worker

/-- the handler: its application is held in a transport write; it has been cancelled and waits for the transport; it is over -/
inductive Phase | writing | cancelledWaiting | over
  deriving Repr, DecidableEq

/-- what can happen to it: the grace period ends (`worker_serve` cancels what remains), time passes, the peer reads what is
    buffered, the peer closes or resets the connection -/
inductive Ev | cancel | tick | peerReads | peerLeaves
  deriving Repr, DecidableEq

def step (rt : Runtime) : Phase → Ev → Phase
  | .writing, .cancel => if rt.blockedWriteOutlivesCancel then .cancelledWaiting else .over
  | .writing, .peerLeaves => .over                 -- the write fails, the protocol is told `Closed`, the handler ends
  | .writing, _ => .writing                        -- a peer that reads lets the application go on writing
  | .cancelledWaiting, .peerReads => .over         -- flushed (asyncio) / `send_all` returns and `Cancelled` is delivered (trio)
  | .cancelledWaiting, .peerLeaves => .over
  | .cancelledWaiting, _ => .cancelledWaiting
  | .over, _ => .over

def run (rt : Runtime) : Phase → List Ev → Phase
  | p, [] => p
  | p, e :: es => run rt (step rt p e) es

/-- the peer does nothing -/
def Silent (es : List Ev) : Prop := ∀ e ∈ es, e = .tick ∨ e = .cancel

theorem waiting_stays (rt : Runtime) : ∀ (es : List Ev), Silent es → run rt .cancelledWaiting es = .cancelledWaiting := by
  intro es
  induction es with
  | nil => intro _; rfl
  | cons e es ih =>
    intro h
    have he := h e (by simp)
    have : step rt .cancelledWaiting e = .cancelledWaiting := by rcases he with rfl | rfl <;> rfl
    simp only [run, this]
    exact ih (fun x hx => h x (by simp [hx]))

/-- **as the code is**: once cancelled, the handler of a blocked write is still there after any amount of time in which the
    peer neither reads nor leaves -/
theorem outlives_cancel (rt : Runtime) (h : rt.blockedWriteOutlivesCancel = true) (es : List Ev) (hs : Silent es) :
    run rt .writing (.cancel :: es) = .cancelledWaiting := by
  simp only [run, step, h, if_true]
  exact waiting_stays rt es hs

theorem over_stays (rt : Runtime) : ∀ (es : List Ev), run rt .over es = .over := by
  intro es; induction es with
  | nil => rfl
  | cons e es ih => simp only [run, step]; exact ih

/-- the peer ends it: whatever happened before, the handler is over after the peer has left -/
theorem released_by_peer (rt : Runtime) (p : Phase) (es : List Ev) : run rt p (.peerLeaves :: es) = .over := by
  cases p <;> simp only [run, step] <;> exact over_stays rt es

/-- a runtime that gives the connection up when it cancels the handler (aborts the transport / does not shield the write)
    is rid of it at once -/
theorem released_at_once (rt : Runtime) (h : rt.blockedWriteOutlivesCancel = false) (es : List Ev) :
    run rt .writing (.cancel :: es) = .over := by
  simp only [run, step, h]
  exact over_stays rt es

end HC.Worker.BlockedWrite
