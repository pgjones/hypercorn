import HC.Conn.Server
/-! Invariants of `HC.Conn.Server`, preserved by every instruction of every task's program from every state satisfying
them (so also by programs resumed after a blocked `put`), hence by every operation sequence.

A proof that a changed state still satisfies `IOK` / `Inv` is written `{ h with f := … }`: the clauses named are those
that read a field the change touches, every other clause is the old one (its statement is unchanged up to unfolding). -/
namespace HC.Conn
open HC.Extracted.ConnGuards

/-- an element that is last in a list and occurs nowhere before occurs in it only there -/
theorem eq_of_snoc_eq_append_cons {α : Type} {d : α} {pre' pre post : List α} (hn : d ∉ pre') (he : pre' ++ [d] = pre ++ d :: post) :
    post = [] ∧ pre = pre' := by
  induction pre' generalizing pre with
  | nil =>
    cases pre with
    | nil => exact ⟨(List.cons.inj he).2.symm, rfl⟩
    | cons x t => simp at he
  | cons y ys ih =>
    cases pre with
    | nil => exact absurd (List.mem_cons.2 (Or.inl (List.cons.inj he).1.symm)) hn
    | cons x t =>
      have := ih (fun h => hn (List.mem_cons_of_mem _ h)) (List.cons.inj he).2
      exact ⟨this.1, by rw [(List.cons.inj he).1, this.2]⟩

/-- per-instance invariant -/
structure IOK (x : Inst) : Prop where
  d1 : x.discPuts ≤ 1                                   -- `app_put(disconnect)` is called at most once
  d2 : x.afterDisc = 0                                  -- … and `app_put` is never called after it
  d3 : x.discPuts = 1 → x.closed = true                 -- only a stream with `closed` set has been handed its disconnect
  d4 : x.closed = true → x.hasApp = true → x.discPuts = 1   -- … and `closed` is set in the action that hands it over
  fifo : x.handed = x.recvd ++ x.inflight.toList ++ x.q ++ x.waiting.map Prod.snd   -- the queue loses, invents, reorders nothing
  d5 : x.discPuts = 0 → QMsg.disconnect ∉ x.handed      -- the counter and the message list agree: no disconnect yet,
  d6 : x.discPuts = 1 → ∃ pre, x.handed = pre ++ [QMsg.disconnect] ∧ QMsg.disconnect ∉ pre   -- … or one, and it is the last
  a1 : x.kind = .http → x.access ≤ 1                    -- `log.access` at most once per HTTP request,
  a2 : x.kind = .http → (x.closed = true ∨ x.hst = .closed) → x.access = 1   -- written by the time the stream is closed or its state CLOSED,
  a3 : x.kind = .http → x.access = 1 → (x.closed = true ∨ x.hst = .closed)   -- and not before

theorem iok_fresh (k : Kind) (a t : Bool) : IOK { kind := k, hasApp := a, directOk := t } := by
  constructor <;> simp

/-- an open stream has not been handed a disconnect -/
theorem IOK.discPuts_of_open {x : Inst} (h : IOK x) (hc : x.closed = false) : x.discPuts = 0 := by
  have := h.d1
  by_cases h1 : x.discPuts = 1
  · rw [h.d3 h1] at hc; cases hc
  · omega

/-- an open HTTP stream whose response has not ended has no access record -/
theorem IOK.access_of_open {x : Inst} (h : IOK x) (hk : x.kind = .http) (hc : x.closed = false) (hh : x.hst ≠ .closed) :
    x.access = 0 := by
  have := h.a1 hk
  by_cases h1 : x.access = 1
  · rcases h.a3 hk h1 with c | c
    · rw [c] at hc; cases hc
    · exact absurd c hh
  · omega

/-- fields an `offer` does not touch -/
theorem offer_same (x : Inst) (cap : Nat) (w : Who) (m : QMsg) :
    (x.offer cap w m).1.closed = x.closed ∧ (x.offer cap w m).1.kind = x.kind ∧ (x.offer cap w m).1.hst = x.hst ∧
    (x.offer cap w m).1.wst = x.wst ∧ (x.offer cap w m).1.access = x.access ∧ (x.offer cap w m).1.hasApp = x.hasApp ∧
    (x.offer cap w m).1.respEnded = x.respEnded ∧ (x.offer cap w m).1.recvd = x.recvd := by
  simp only [Inst.offer]; split <;> exact ⟨rfl, rfl, rfl, rfl, rfl, rfl, rfl, rfl⟩

theorem offer_counts (x : Inst) (cap : Nat) (w : Who) (m : QMsg) :
    (x.offer cap w m).1.discPuts = x.discPuts + (if m = QMsg.disconnect then 1 else 0) ∧
    (x.offer cap w m).1.afterDisc = x.afterDisc + (if x.discPuts > 0 then 1 else 0) ∧
    (x.offer cap w m).1.handed = x.handed ++ [m] ∧
    (x.offer cap w m).1.recvd ++ (x.offer cap w m).1.inflight.toList ++ (x.offer cap w m).1.q ++ (x.offer cap w m).1.waiting.map Prod.snd =
      (x.recvd ++ x.inflight.toList ++ x.q ++ x.waiting.map Prod.snd) ++ [m] := by
  simp only [Inst.offer]; split
  · next h => exact ⟨rfl, rfl, rfl, by simp [h.2]⟩
  · exact ⟨rfl, rfl, rfl, by simp⟩

theorem offer_busy (x : Inst) (cap : Nat) (w : Who) (m : QMsg) : (x.offer cap w m).1.busy = x.busy := by
  obtain ⟨e1, e2, _, e4, _, _, e7, _⟩ := offer_same x cap w m
  simp only [Inst.busy, e1, e2, e4, e7]

/-- handing `m` to an instance that has had no disconnect leaves it well-formed, provided `m` is the disconnect exactly when
    the stream has been marked closed (`x` itself need not be well-formed: a stream just marked closed is not, until its
    disconnect is handed over) -/
theorem iok_offer (x : Inst) (cap : Nat) (w : Who) (m : QMsg) (h0 : x.discPuts = 0) (ha : x.afterDisc = 0)
    (hf : x.handed = x.recvd ++ x.inflight.toList ++ x.q ++ x.waiting.map Prod.snd) (h5 : QMsg.disconnect ∉ x.handed)
    (hm : m = .disconnect ↔ x.closed = true) (a1 : x.kind = .http → x.access ≤ 1)
    (a2 : x.kind = .http → (x.closed = true ∨ x.hst = .closed) → x.access = 1)
    (a3 : x.kind = .http → x.access = 1 → (x.closed = true ∨ x.hst = .closed)) : IOK (x.offer cap w m).1 := by
  obtain ⟨e1, e2, e3, _, e5, _, _, _⟩ := offer_same x cap w m
  obtain ⟨c1, c2, c3, c4⟩ := offer_counts x cap w m
  rw [h0, Nat.zero_add] at c1
  rw [h0, ha] at c2
  rw [← e2, ← e5] at a1 a2 a3
  rw [← e1, ← e3] at a2 a3
  have fifo := c3.trans (hf ▸ c4.symm)
  by_cases hd : m = .disconnect
  · rw [if_pos hd] at c1
    exact ⟨Nat.le_of_eq c1, c2, fun _ => e1 ▸ hm.1 hd, fun _ _ => c1, fifo, fun h => absurd (c1.symm.trans h) nofun,
      fun _ => ⟨x.handed, by rw [c3, hd], h5⟩, a1, a2, a3⟩
  · rw [if_neg hd] at c1
    exact ⟨c1 ▸ Nat.zero_le 1, c2, fun h => absurd (c1.symm.trans h) nofun, fun h => absurd (hm.2 (e1 ▸ h)) hd, fifo,
      fun _ => by rw [c3]; simp [h5, Ne.symm hd], fun h => absurd (c1.symm.trans h) nofun, a1, a2, a3⟩

/-- a data message (never the disconnect) handed to an open stream -/
theorem iok_offer_data (x : Inst) (cap : Nat) (w : Who) (m : DMsg) (h : IOK x) (hc : x.closed = false) :
    IOK (x.offer cap w m.toQ).1 :=
  have h0 := h.discPuts_of_open hc
  iok_offer x cap w m.toQ h0 h.d2 h.fifo (h.d5 h0) ⟨by cases m <;> nofun, by rw [hc]; nofun⟩ h.a1 h.a2 h.a3

theorem markStreamClosed_fields (x : Inst) :
    x.markStreamClosed.closed = true ∧ x.markStreamClosed.kind = x.kind ∧ x.markStreamClosed.hst = x.hst ∧
    x.markStreamClosed.wst = x.wst ∧ x.markStreamClosed.hasApp = x.hasApp ∧ x.markStreamClosed.respEnded = x.respEnded ∧
    x.markStreamClosed.discPuts = x.discPuts ∧ x.markStreamClosed.afterDisc = x.afterDisc ∧ x.markStreamClosed.handed = x.handed ∧
    x.markStreamClosed.recvd = x.recvd ∧ x.markStreamClosed.q = x.q ∧ x.markStreamClosed.waiting = x.waiting ∧
    x.markStreamClosed.access = x.access + (if x.kind = .http ∧ x.hst ≠ .closed then 1 else 0) ∧
    x.markStreamClosed.inflight = x.inflight := by
  refine ⟨?_, rfl, rfl, rfl, rfl, rfl, rfl, rfl, rfl, rfl, rfl, rfl, ?_, rfl⟩
  · show (match x.kind with | .http => _ | .ws => _) = true
    cases x.kind <;> rfl
  · show x.access + (if (x.kind == .http && (httpStreamClosedLogsUnlessEnded && x.hst != .closed)) = true then 1 else 0) = _
    simp [httpStreamClosedLogsUnlessEnded]

/-- `stream.handle(StreamClosed)` on an open stream: closed, logged (HTTP, unless its response end was), disconnect handed over -/
theorem iok_streamClosed (x : Inst) (cap : Nat) (w : Who) (h : IOK x) (hc : x.closed = false) :
    IOK (if x.hasApp then (x.markStreamClosed.offer cap w .disconnect).1 else x.markStreamClosed) := by
  have m1 := (markStreamClosed_fields x).1
  have m13 := (markStreamClosed_fields x).2.2.2.2.2.2.2.2.2.2.2.2.1
  have h0 := h.discPuts_of_open hc
  -- the record written now is the request's first, and its only one
  have a2' : x.kind = .http → x.markStreamClosed.access = 1 := by
    intro hk; rw [m13]
    by_cases hh : x.hst = .closed
    · simp [hh]; exact h.a2 hk (Or.inr hh)
    · simp [hk, hh, h.access_of_open hk hc hh]
  split
  · exact iok_offer _ cap w _ h0 h.d2 h.fifo (h.d5 h0) ⟨fun _ => m1, fun _ => rfl⟩ (fun hk => Nat.le_of_eq (a2' hk))
      (fun hk _ => a2' hk) (fun _ _ => Or.inl m1)
  · next hna =>
    exact { h with d3 := fun _ => m1, d4 := fun _ ha => absurd ha hna, a1 := fun hk => Nat.le_of_eq (a2' hk),
                   a2 := fun hk _ => a2' hk, a3 := fun _ _ => Or.inl m1 }

/-- `_close_after_error` on an open WebSocket -/
theorem iok_closeAfterError (x : Inst) (cap : Nat) (w : Who) (h : IOK x) (hc : x.closed = false) (hk : x.kind = .ws) :
    IOK (if x.hasApp then ({ x with closed := true }.offer cap w .disconnect).1 else { x with closed := true }) := by
  have h0 := h.discPuts_of_open hc
  have nk : ∀ {p : Prop}, x.kind = .http → p := fun e => by rw [hk] at e; cases e
  split
  · exact iok_offer _ cap w _ h0 h.d2 h.fifo (h.d5 h0) ⟨fun _ => rfl, fun _ => rfl⟩ nk nk nk
  · next hna => exact { h with d3 := fun _ => rfl, d4 := fun _ ha => absurd ha hna, a2 := nk, a3 := nk }

/-! ### state-level invariant -/
structure Inv (s : St) : Prop where
  inst : ∀ i, IOK (s.inst i)
  armed : s.timer.isSome = true → s.busy = false
  dl : ∀ d, s.timer = some d → d = s.armedAt + s.cfg.T
  lv : ∀ i, i < s.n → (s.inst i).closed = true ∨ i ∈ s.live     -- a stream the protocol has forgotten is closed
  nl : ∀ d, s.timer = some d → s.now ≤ d                         -- virtual time never passes an armed deadline
  al : ∀ d, s.timer = some d → s.armedAt ≤ s.now                 -- … and the timer was started in the past

theorem busy_mono (s s' : St) (h : ∀ j, j ∈ s'.live → j ∈ s.live ∧ ((s'.inst j).busy = true → (s.inst j).busy = true))
    (hb : s.busy = false) : s'.busy = false := by
  simp only [St.busy, List.any_eq_false] at hb ⊢
  intro j hj hbj
  exact hb j (h j hj).1 ((h j hj).2 hbj)

/-! #### the helpers of the interpreter: what they leave alone, and that they keep the invariant -/

theorem inv_emit {s : St} {o : List Out} (h : Inv s) : Inv (s.emit o) := { h with }
theorem inv_block {s : St} {w : Who} {r : List Instr} (h : Inv s) : Inv (s.block w r) := { h with }
theorem inv_yieldTo {s : St} {w : Who} {r : List Instr} (h : Inv s) : Inv (s.yieldTo w r) := { h with }
theorem inv_lockWait {s : St} {w : Who} {r : List Instr} (h : Inv s) : Inv (s.lockWait w r) := { h with }

/-- case distinction on a guard of the model; unlike `split` it does not abstract the (large) branches -/
theorem ite_elim {α : Type} {P : α → Prop} {c : Prop} [Decidable c] {a b : α} (ha : c → P a) (hb : ¬ c → P b) :
    P (if c then a else b) := by
  split
  · exact ha ‹_›
  · exact hb ‹_›

theorem inv_ite {c : Prop} [Decidable c] {a b : St} (ha : c → Inv a) (hb : ¬ c → Inv b) : Inv (if c then a else b) :=
  ite_elim ha hb
theorem inv_ite_fst {c : Prop} [Decidable c] {a b : St × Bool} (ha : c → Inv a.1) (hb : ¬ c → Inv b.1) : Inv (if c then a else b).1 :=
  ite_elim (P := fun r : St × Bool => Inv r.1) ha hb

/-- a disarmed timer: every clause about an armed one holds for want of one -/
theorem inv_disarm {s : St} (h : Inv s) : Inv { s with timer := none } :=
  { h with armed := nofun, dl := nofun, nl := nofun, al := nofun }

theorem inv_release (s : St) (h : Inv s) : Inv s.release := by
  unfold St.release; split
  · exact { h with }
  · exact h

theorem inv_releaseWriter (s : St) (h : Inv s) : Inv s.releaseWriter := by
  unfold St.releaseWriter; split
  · exact { h with }
  · exact h

@[simp] theorem releaseWriter_closed (s : St) : s.releaseWriter.closedByServer = s.closedByServer := by unfold St.releaseWriter; split <;> rfl
@[simp] theorem releaseWriter_closeAt (s : St) : s.releaseWriter.closeAt = s.closeAt := by unfold St.releaseWriter; split <;> rfl
@[simp] theorem releaseWriter_armedAt (s : St) : s.releaseWriter.armedAt = s.armedAt := by unfold St.releaseWriter; split <;> rfl
@[simp] theorem releaseWriter_cfg (s : St) : s.releaseWriter.cfg = s.cfg := by unfold St.releaseWriter; split <;> rfl

/-- `writer.close()` only marks the transport closed, records when, and (trio) releases a blocked writer -/
theorem closeTransport_touches (s : St) : ∃ c a o b q r,
    s.closeTransport = { s with closedByServer := c, closeAt := a, outs := o, wblocked := b, wlockq := q, ready := r } := by
  unfold St.closeTransport
  split
  · exact ⟨s.closedByServer, s.closeAt, s.outs, s.wblocked, s.wlockq, s.ready, rfl⟩
  · dsimp only [St.emit]
    split
    · unfold St.releaseWriter
      split
      · exact ⟨true, some s.now, s.outs ++ [.closeT s.now], none, [], _, rfl⟩
      · exact ⟨true, some s.now, s.outs ++ [.closeT s.now], s.wblocked, s.wlockq, s.ready, rfl⟩
    · exact ⟨true, some s.now, s.outs ++ [.closeT s.now], s.wblocked, s.wlockq, s.ready, rfl⟩

@[simp] theorem closeTransport_inst (s : St) : s.closeTransport.inst = s.inst := by
  obtain ⟨_, _, _, _, _, _, e⟩ := closeTransport_touches s; rw [e]
@[simp] theorem closeTransport_live (s : St) : s.closeTransport.live = s.live := by
  obtain ⟨_, _, _, _, _, _, e⟩ := closeTransport_touches s; rw [e]
@[simp] theorem closeTransport_timer (s : St) : s.closeTransport.timer = s.timer := by
  obtain ⟨_, _, _, _, _, _, e⟩ := closeTransport_touches s; rw [e]
@[simp] theorem closeTransport_rpc (s : St) : s.closeTransport.rpc = s.rpc := by
  obtain ⟨_, _, _, _, _, _, e⟩ := closeTransport_touches s; rw [e]
@[simp] theorem closeTransport_closers (s : St) : s.closeTransport.closers = s.closers := by
  obtain ⟨_, _, _, _, _, _, e⟩ := closeTransport_touches s; rw [e]
@[simp] theorem closeTransport_now (s : St) : s.closeTransport.now = s.now := by
  obtain ⟨_, _, _, _, _, _, e⟩ := closeTransport_touches s; rw [e]
@[simp] theorem closeTransport_doneAt (s : St) : s.closeTransport.doneAt = s.doneAt := by
  obtain ⟨_, _, _, _, _, _, e⟩ := closeTransport_touches s; rw [e]
@[simp] theorem closeTransport_closed (s : St) : s.closeTransport.closedByServer = true := by
  unfold St.closeTransport; split
  · assumption
  · dsimp only; split <;> simp [St.emit]
theorem closeTransport_closeAt (s : St) (h : s.closedByServer = false) : s.closeTransport.closeAt = some s.now := by
  unfold St.closeTransport; rw [if_neg (by simp [h])]
  dsimp only; split <;> simp [St.emit]

theorem inv_closeTransport (s : St) (h : Inv s) : Inv s.closeTransport := by
  obtain ⟨_, _, _, _, _, _, e⟩ := closeTransport_touches s
  rw [e]; exact { h with }

@[simp] theorem stopTimer_inst (s : St) : s.stopTimer.inst = s.inst := by unfold St.stopTimer; split <;> rfl
@[simp] theorem stopTimer_live (s : St) : s.stopTimer.live = s.live := by unfold St.stopTimer; split <;> rfl
@[simp] theorem stopTimer_timer (s : St) : s.stopTimer.timer = none := by
  unfold St.stopTimer; split
  · rfl
  · next h => simpa using h
@[simp] theorem stopTimer_closed (s : St) : s.stopTimer.closedByServer = s.closedByServer := by unfold St.stopTimer; split <;> rfl
@[simp] theorem stopTimer_rpc (s : St) : s.stopTimer.rpc = s.rpc := by unfold St.stopTimer; split <;> rfl
@[simp] theorem stopTimer_closers (s : St) : s.stopTimer.closers = s.closers := by unfold St.stopTimer; split <;> rfl
@[simp] theorem stopTimer_closeAt (s : St) : s.stopTimer.closeAt = s.closeAt := by unfold St.stopTimer; split <;> rfl
@[simp] theorem stopTimer_now (s : St) : s.stopTimer.now = s.now := by unfold St.stopTimer; split <;> rfl

theorem inv_stopTimer (s : St) (h : Inv s) : Inv s.stopTimer := by
  unfold St.stopTimer; split
  · exact inv_emit (inv_disarm h)
  · exact h

/-- **the idle task waits exactly `keep_alive_timeout`** on both workers, for every value of it (0 included: `wait_for(…, 0)` /
    `move_on_after(0)` expire at once).  The two expressions are extracted (`asyncioIdleWait`, `trioIdleWait`): anything else than
    the configured value itself - `keep_alive_timeout or None`, say, which turns 0 into "never" - and this no longer holds -/
theorem Cfg.wait_eq (c : Cfg) : c.wait = some c.T := by
  unfold Cfg.wait asyncioIdleWait trioIdleWait; split <;> rfl
attribute [simp] Cfg.wait_eq

@[simp] theorem armTimer_timer (s : St) : s.armTimer.timer = some (s.now + s.cfg.T) := by simp [St.armTimer, St.emit]
@[simp] theorem armTimer_armedAt (s : St) : s.armTimer.armedAt = s.now := rfl

theorem inv_armTimer (s : St) (h : Inv s) (hb : s.busy = false) : Inv s.armTimer :=
  { h with armed := fun _ => hb
           dl := fun d hd => by simpa [St.armTimer, St.emit, eq_comm] using hd
           nl := fun d hd => by have : s.now + s.cfg.T = d := by simpa [St.armTimer, St.emit] using hd
                                exact this ▸ Nat.le_add_right ..
           al := fun _ _ => Nat.le_refl _ }

/-- a property relating each replaced entry to the old one holds of `upd f i v` if it holds of `v` -/
theorem upd_rel {R : Inst → Inst → Prop} {f : Nat → Inst} {i : Nat} {v : Inst} (hv : R v (f i)) (hr : ∀ j, R (f j) (f j)) (j : Nat) :
    R (upd f i v j) (f j) := by
  unfold upd; split
  · next e => exact e ▸ hv
  · exact hr j

@[simp] theorem upd_same (f : Nat → Inst) (i : Nat) (v : Inst) : upd f i v i = v := by simp [upd]
@[simp] theorem upd_upd (f : Nat → Inst) (i : Nat) (a b : Inst) : upd (upd f i a) i b = upd f i b := by
  funext j; simp only [upd]; split <;> rfl

/-- an instance is replaced by a well-formed one that is no busier and no less closed -/
theorem inv_setInst (s : St) (i : Nat) (x : Inst) (h : Inv s) (hx : IOK x) (hb : x.busy = true → (s.inst i).busy = true)
    (hcl : (s.inst i).closed = true → x.closed = true) : Inv (s.setInst i x) :=
  { h with inst := upd_rel (R := fun a _ => IOK a) hx h.inst
           armed := fun ha => busy_mono s _ (fun j hj => ⟨hj, upd_rel (R := fun a b => a.busy = true → b.busy = true) hb (fun _ => id) j⟩) (h.armed ha)
           lv := fun j hj => (h.lv j hj).imp_left (upd_rel (R := fun a b => b.closed = true → a.closed = true) hcl (fun _ => id) j) }

/-- … in particular by one that differs in a field neither `IOK` nor `busy` reads -/
theorem inv_setInst_same (s : St) (i : Nat) (x : Inst) (h : Inv s) (hx : IOK x) (hb : x.busy = (s.inst i).busy)
    (hcl : x.closed = (s.inst i).closed) : Inv (s.setInst i x) :=
  inv_setInst s i x h hx (hb ▸ id) (hcl ▸ id)

/-- a closed stream is dropped from the register -/
theorem inv_erase (s : St) (i : Nat) (h : Inv s) (hc : (s.inst i).closed = true) : Inv { s with live := s.live.erase i } :=
  { h with armed := fun ha => busy_mono s _ (fun _ hj => ⟨List.mem_of_mem_erase hj, id⟩) (h.armed ha)
           lv := fun j hj => (h.lv j hj).elim Or.inl fun m =>
             if e : j = i then Or.inl (e ▸ hc) else Or.inr ((List.mem_erase_of_ne e).2 m) }

theorem busy_of_closed (x : Inst) (h : x.closed = true) : x.busy = false := by simp [Inst.busy, h]

/-- the guard of `stream.handle` let the event through: the stream is open -/
theorem open_of_guard {x : Inst} (hg : ¬ (x.handleGuard && x.closed) = true) : x.closed = false := by
  cases hc : x.closed
  · rfl
  · exact absurd (by unfold Inst.handleGuard; cases x.kind <;> simp [hc, httpHandleClosedGuard, wsHandleClosedGuard]) hg

theorem inv_offer_data (s : St) (w : Who) (i : Nat) (m : DMsg) (h : Inv s) (hc : (s.inst i).closed = false) :
    Inv (offer s w i m.toQ).1 :=
  inv_emit (inv_setInst_same s i _ h (iok_offer_data _ _ w m (h.inst i) hc) (offer_busy ..) (offer_same ..).1)

/-- a stream is told it is closed: marked, handed its disconnect if it has an application, and (HTTP/2) dropped from the register
    first.  `y` is what becomes of the instance: well-formed and closed -/
theorem inv_close (s : St) (i : Nat) (pop : Bool) (y : Inst) (o : List Out) (h : Inv s) (hy : IOK y) (hc : y.closed = true) :
    Inv ((({ s with live := if pop then s.live.erase i else s.live } : St).setInst i y).emit o) := by
  have h1 := inv_setInst s i y h hy (by rw [busy_of_closed y hc]; nofun) (fun _ => hc)
  cases pop
  · exact inv_emit h1
  · exact inv_emit (inv_erase _ i h1 (by simp [St.setInst, hc]))

/-- an offer to the instance that was just replaced replaces it once more -/
theorem offer_setInst (t : St) (w : Who) (i : Nat) (y : Inst) (o : List Out) (m : QMsg) :
    (offer ((t.setInst i y).emit o) w i m).1 = ((t.setInst i (y.offer t.cfg.cap w m).1).emit o).emit [.put i m] := by
  simp only [offer, St.setInst, St.emit, upd_same, upd_upd]

theorem inv_closeStreamP (s : St) (w : Who) (i : Nat) (pop : Bool) (h : Inv s) : Inv (closeStreamP s w i pop).1 := by
  unfold closeStreamP
  refine inv_ite_fst (fun _ => h) fun _ => inv_ite_fst (fun hg => ?_) fun hg => ?_
  · -- told before: only the register changes
    have hc : (s.inst i).closed = true := (Bool.and_eq_true _ _ ▸ hg).2
    cases pop
    · exact { h with }
    · exact inv_erase s i h hc
  · have hm := iok_streamClosed (s.inst i) s.cfg.cap w (h.inst i) (open_of_guard hg)
    have m1 := (markStreamClosed_fields (s.inst i)).1
    refine inv_ite_fst (fun ha => ?_) fun ha => ?_
    · rw [if_pos ha] at hm
      rw [offer_setInst]
      exact inv_emit (inv_close s i pop _ _ h hm (by rw [(offer_same ..).1]; exact m1))
    · rw [if_neg ha] at hm
      exact inv_close s i pop _ _ h hm m1

theorem inv_closeAfterErrorP (s : St) (w : Who) (i : Nat) (h : Inv s) : Inv (closeAfterErrorP s w i).1 := by
  unfold closeAfterErrorP
  refine inv_ite_fst (fun _ => h) fun hg => ?_
  simp only [Bool.or_eq_true, not_or, Bool.not_eq_true, bne_iff_ne, ne_eq, Decidable.not_not] at hg
  have hm := iok_closeAfterError (s.inst i) s.cfg.cap w (h.inst i) hg.1 hg.2
  refine inv_ite_fst (fun ha => ?_) fun ha => ?_
  · rw [if_pos ha] at hm
    -- `offer_setInst` with nothing emitted in between (`outs ++ []` is `outs` only up to a rewrite; the invariant does not read `outs`)
    have h1 : Inv (offer ((s.setInst i { s.inst i with closed := true }).emit []) w i .disconnect).1 := by
      rw [offer_setInst]
      exact inv_emit (inv_close s i false _ _ h hm (by rw [(offer_same ..).1]))
    exact { h1 with }
  · rw [if_neg ha] at hm
    exact inv_setInst s i _ h hm (by rw [busy_of_closed _ rfl]; nofun) (fun _ => rfl)

theorem idle_not_busy (x : Inst) (h : x.idle = true) : x.busy = false := by
  unfold Inst.idle at h
  cases hk : x.kind <;> simp only [hk] at h
  · simp [httpStreamIdle] at h
  · cases hw : x.wst <;> simp [hw, wsIdleStates] at h <;> simp [Inst.busy, hk, hw]

theorem all_idle_not_busy (s : St) (h : s.live.all (fun j => (s.inst j).idle) = true) : s.busy = false := by
  simp only [St.busy, List.any_eq_false]
  simp only [List.all_eq_true] at h
  intro j hj; simp [idle_not_busy _ (h j hj)]

theorem nil_not_busy (s : St) (h : s.live = []) : s.busy = false := by simp [St.busy, h]

theorem inv_idleUpdate (s : St) (h : Inv s) :
    Inv (if s.live.all (fun j => (s.inst j).idle) then s.armTimer else s.stopTimer) := by
  split
  · next hi => exact inv_armTimer s h (all_idle_not_busy s hi)
  · exact inv_stopTimer s h

theorem inv_afterCloseP (s : St) (h : Inv s) : Inv (afterCloseP s).1 := by
  unfold afterCloseP
  split
  · split
    · next hc =>
      -- recycled: nothing is registered, so the timer may be restarted
      have hl : s.live = [] := List.isEmpty_iff.1 (Bool.and_eq_true _ _ ▸ hc).2
      have hr : Inv ({ s with our := .idle, their := .idle } : St).release := inv_release _ { h with }
      split
      · refine inv_armTimer _ hr (nil_not_busy _ ?_)
        unfold St.release; split <;> exact hl
      · exact hr
    · exact inv_release _ { h with }
  · exact h

/-! #### single instructions that rewrite an instance -/

theorem inv_httpEnd_closed (s : St) (i : Nat) (h : Inv s) (hc : (s.inst i).closed = true) :
    Inv (s.setInst i { (s.inst i) with hst := .closed, respEnded := true }) :=
  have hI := h.inst i
  inv_setInst s i _ h { hI with a2 := fun hk _ => hI.a2 hk (Or.inl hc), a3 := fun _ _ => Or.inl hc }
    (by simp [Inst.busy, hc]) id

theorem inv_httpEnd_open (s : St) (i : Nat) (st : Nat) (h : Inv s) (hh : (s.inst i).hst ≠ .closed) (hk : (s.inst i).kind = .http)
    (hc : (s.inst i).closed = false) :
    Inv ((s.setInst i { (s.inst i) with hst := .closed, respEnded := true, access := (s.inst i).access + 1 }).emit [.access i (some st)]) :=
  have hI := h.inst i
  have acc0 := hI.access_of_open hk hc hh
  inv_emit (inv_setInst s i _ h { hI with a1 := fun _ => by simp [acc0], a2 := fun _ _ => by simp [acc0], a3 := fun _ _ => Or.inr rfl }
    (by simp [Inst.busy, hk]) id)

theorem inv_wsAccess (s : St) (i : Nat) (st : Option Nat) (h : Inv s) (hk : (s.inst i).kind = .ws) :
    Inv ((s.setInst i { (s.inst i) with access := (s.inst i).access + 1 }).emit [.access i st]) :=
  have nk : ∀ {p : Prop}, (s.inst i).kind = .http → p := fun e => by rw [hk] at e; cases e
  inv_emit (inv_setInst_same s i _ h { h.inst i with a1 := nk, a2 := nk, a3 := nk } rfl rfl)

theorem inv_setHResponse (s : St) (i : Nat) (h : Inv s) (hr : (s.inst i).hst = .request) :
    Inv (s.setInst i { (s.inst i) with hst := .response }) :=
  have hI := h.inst i
  inv_setInst_same s i _ h
    { hI with a2 := fun hk hc => hI.a2 hk (hc.imp_right nofun)
              a3 := fun hk ha => (hI.a3 hk ha).imp_right fun c => by rw [hr] at c; cases c } rfl rfl

theorem inv_setW (s : St) (i : Nat) (v : WSt) (h : Inv s) (hn : ¬ ((s.inst i).wst = .closed ∨ (s.inst i).wst = .httpClosed)) :
    Inv (s.setInst i { (s.inst i) with wst := v }) := by
  refine inv_setInst s i _ h { h.inst i with } ?_ id
  -- a WebSocket that is not closed is busy unless the peer has abandoned it, whatever its state becomes
  intro hb
  simp only [Inst.busy] at hb ⊢
  cases hk : (s.inst i).kind <;> simp only [hk] at hb ⊢
  · exact hb
  · cases hw : (s.inst i).wst <;> simp_all

theorem inv_markClosed (s : St) (i : Nat) (h : Inv s) (hg : ¬ ((s.inst i).hasApp = true ∨ ((s.inst i).kind = .http ∧ (s.inst i).hst ≠ .closed))) :
    Inv (s.setInst i { (s.inst i) with closed := true }) :=
  have hI := h.inst i
  inv_setInst s i _ h
    { hI with d3 := fun _ => rfl, d4 := fun _ ha => absurd (Or.inl ha) hg
              a2 := fun hk _ => hI.a2 hk (Or.inr (Decidable.not_not.1 fun hc => hg (Or.inr ⟨hk, hc⟩))), a3 := fun _ _ => Or.inl rfl }
    (by rw [busy_of_closed _ rfl]; nofun) (fun _ => rfl)

/-- every instruction of every program preserves the invariant, from any state satisfying it -/
theorem exec_inv : ∀ (f : Nat) (s : St) (w : Who) (p : List Instr), Inv s → Inv (exec f s w p) := by
  intro f
  induction f with
  | zero => intro s w p h; exact { h with }
  | succ f ih =>
    intro s w p h
    cases p with
    | nil => exact h
    | cons ins rest =>
      -- a task that blocks or yields keeps the state it has reached; otherwise the rest of the program runs from it
      have stop : ∀ {t : St} {c : Prop} [Decidable c] {y : Prop} [Decidable y] {r : List Instr}, Inv t →
          Inv (if c then t.block w r else if y then t.yieldTo w r else exec f t w r) :=
        fun ht => inv_ite (fun _ => inv_block ht) fun _ => inv_ite (fun _ => inv_yieldTo ht) fun _ => ih _ _ _ ht
      cases ins <;> simp only [exec]
      case dataPut i m =>
        exact inv_ite (fun _ => ih _ _ _ h) fun hg => stop (inv_offer_data s w i m h (open_of_guard hg))
      case closeStream i => exact stop (inv_closeStreamP s w i _ h)
      case h2StreamClosed i => exact inv_ite (fun _ => ih _ _ _ h) fun _ => ih _ _ _ h
      case forget i =>
        exact ih _ _ _ (inv_ite (fun hc => inv_erase s i h (Bool.and_eq_true _ _ ▸ hc).1) fun _ => h)
      case closeCur => split <;> exact ih _ _ _ h
      case closeAfterError i =>
        have h1 := inv_closeAfterErrorP s w i h
        exact inv_ite (fun _ => inv_block h1) fun _ => ih _ _ _ h1
      case handleClosed => exact inv_ite (fun _ => ih _ _ _ h) fun _ => ih _ _ _ { h with }
      case canReadSet => exact ih _ _ _ (inv_release s h)
      case yield => exact inv_yieldTo h
      case drain i => exact inv_ite (fun _ => { h with }) fun _ => inv_yieldTo h
      case h2buffer i =>
        exact ih _ _ _ (inv_ite (fun _ => inv_setInst_same s i _ h { h.inst i with } rfl rfl) fun _ => h)
      case write =>
        exact inv_ite (fun _ => inv_lockWait h) fun _ => inv_ite (fun _ => inv_yieldTo h) fun _ => ih _ _ _ h
      case writeNow =>
        refine inv_ite (fun _ => inv_lockWait h) fun _ => inv_ite (fun _ => ih _ _ _ (inv_emit h)) fun _ =>
          inv_ite (fun _ => ih _ _ _ (inv_emit { h with })) fun _ => inv_ite (fun _ => ?wpaused) fun _ => ih _ _ _ (inv_emit { h with })
        -- `wpaused`: the write is accepted but does not complete; the task stays inside it, holding `send_lock`
        case wpaused => exact { h with }
      case writeWait => exact inv_ite (fun _ => ih _ _ _ (inv_emit h)) fun _ => ih _ _ _ h
      case wrapperIdle =>
        -- the extracted order: `Updated(idle=True)` is sent while no stream exists
        rw [if_pos (by rfl : priorIdleBeforeData = true)]
        exact ih _ _ _ (inv_ite (fun hl => inv_armTimer s h (nil_not_busy s (List.isEmpty_iff.1 hl))) fun _ => h)
      case serverClose => exact inv_ite (fun _ => inv_yieldTo h) fun _ => ih _ _ _ h
      case serverCloseNow =>
        have h2 : Inv (if s.cfg.closeStops then s.closeTransport.stopTimer else s.closeTransport) :=
          inv_ite (fun _ => inv_stopTimer _ (inv_closeTransport s h)) fun _ => inv_closeTransport s h
        exact inv_ite (fun _ => h) fun _ =>
          inv_ite (fun _ => inv_ite (fun _ => inv_yieldTo h2) fun _ => ih _ _ _ h2) fun _ => ih _ _ _ h2
      case transportClose => exact ih _ _ _ (inv_closeTransport s h)
      case afterClose => exact ih _ _ _ (inv_afterCloseP s h)
      case idleUpdate => exact ih _ _ _ (inv_idleUpdate s h)
      case access i st =>
        exact inv_ite (fun hk => ih _ _ _ (inv_wsAccess s i st h (eq_of_beq hk))) fun _ => ih _ _ _ h
      case stateClosedEarly i err =>
        -- extracted: `self.state = CLOSED` follows the sends, so this position of it does nothing
        rw [if_pos (by cases err <;> rfl)]
        exact ih _ _ _ h
      case httpEnd i st =>
        refine inv_ite (fun _ => ih _ _ _ h) fun hg => ?_
        have ⟨hh, hk⟩ : (s.inst i).hst ≠ .closed ∧ (s.inst i).kind = .http := by
          simpa [httpSendsBeforeStateClosedError, httpSendsBeforeStateClosedClosed] using hg
        refine inv_ite (fun hc => ih _ _ _ (inv_httpEnd_closed s i h (Bool.and_eq_true _ _ ▸ hc).2)) fun hc => ?_
        have hc' : (s.inst i).closed = false := by simpa [httpLogGuardedClosed, httpLogGuardedError] using hc
        exact ih _ _ _ (inv_httpEnd_open s i st h hh hk hc')
      case setHResponse i =>
        exact ih _ _ _ (inv_ite (fun hr => inv_setHResponse s i h (eq_of_beq hr)) fun _ => h)
      case setW i v =>
        exact ih _ _ _ (inv_ite (fun _ => h) fun hn => inv_setW s i v h (by simpa using hn))
      case setAccepted i => exact ih _ _ _ (inv_setInst_same s i _ h { h.inst i with } rfl rfl)
      case markClosed i =>
        exact ih _ _ _ (inv_ite (fun _ => h) fun hn => inv_markClosed s i h (by simpa using hn))
      case libResp | libEom | spawnCloser | resumeLoop | releaseDrains => exact ih _ _ _ { h with }
      case sendRet i ok => exact ih _ _ _ (inv_emit h)
      case markExited i => exact ih _ _ _ (inv_emit (inv_setInst_same s i _ h { h.inst i with } rfl rfl))
      case loopEnd =>
        -- (the extracted order again: no `Updated(idle=True)` is outstanding here)
        have e : (!priorIdleBeforeData && s.lateIdle) = false := rfl
        simp only [e, Bool.false_eq_true, if_false]
        exact inv_ite (fun _ => ih _ _ _ h) fun _ => ih _ _ _ { h with }
      case readerEnd =>
        have h1 : Inv (if s.cfg.readerEndStops then s.stopTimer else s) := inv_ite (fun _ => inv_stopTimer s h) fun _ => h
        exact ih _ _ _ { h1 with }
      case timerEnd => exact ih _ _ _ h

theorem prog_inv (s : St) (w : Who) (p : List Instr) (h : Inv s) : Inv (s.run w p) := exec_inv _ s w p h
/-- a new stream is registered while the timer is stopped -/
theorem inv_newInst (s : St) (x : Inst) (h : Inv s) (ht : s.timer = none) (hx : IOK x) : Inv (s.newInst x) :=
  { h with inst := upd_rel (R := fun a _ => IOK a) hx h.inst
           armed := fun ha => by simp [St.newInst, ht] at ha
           lv := fun j hj => by
             simp only [St.newInst, List.mem_append, List.mem_singleton] at hj ⊢
             by_cases e : j = s.n
             · exact Or.inr (Or.inr e)
             · rw [upd, if_neg e]; exact (h.lv j (by omega)).imp_right Or.inl }

/-- the invariant holds of the state an operation leads to, if the operation is enabled -/
def InvOpt (o : Option St) : Prop := ∀ s', o = some s' → Inv s'

theorem invOpt_none : InvOpt none := fun _ e => nomatch e
theorem invOpt_some {a : St} (h : Inv a) : InvOpt (some a) := fun _ e => Option.some.inj e ▸ h
theorem invOpt_ite {c : Prop} [Decidable c] {a b : Option St} (ha : c → InvOpt a) (hb : ¬ c → InvOpt b) : InvOpt (if c then a else b) :=
  ite_elim ha hb
theorem invOpt_guard {c : Prop} [Decidable c] {a : St} (ha : c → Inv a) : InvOpt (if c then some a else none) :=
  invOpt_ite (fun hc => invOpt_some (ha hc)) fun _ => invOpt_none
theorem invOpt_unless {c : Prop} [Decidable c] {a : St} (ha : ¬ c → Inv a) : InvOpt (if c then none else some a) :=
  invOpt_ite (fun _ => invOpt_none) fun hc => invOpt_some (ha hc)
theorem invOpt_run {t : St} {w : Who} {p : List Instr} (h : Inv t) : InvOpt (some (t.run w p)) := invOpt_some (prog_inv t w p h)

theorem step_invOpt (s : St) (o : Op) (h : Inv s) : InvOpt (step s o) := by
  cases o <;> simp only [step]
  case read | readEof => exact invOpt_guard fun _ => { h with }
  case readReset | connClosed | closerRun | readerSeesClose => exact invOpt_guard fun _ => prog_inv _ _ _ { h with }
  case head hd =>
    -- the head stops the timer, then registers the new stream: with an application (`spawn`), or answered by the stream
    -- itself (unknown server name: 404; WebSocket handshake not valid: 400)
    have ht := stopTimer_timer s
    refine invOpt_ite (fun _ => invOpt_none) fun _ => ?_
    split
    · -- HTTP/1, only on an idle connection; `h1`: after `Updated(idle=False)` and h11's bookkeeping
      have h1 : Inv { s.stopTimer with our := .sendResp, their := .recv, keepAlive := hd.keepAlive, reqComplete := false, wsMode := hd.kind == Kind.ws } :=
        { inv_stopTimer s h with }
      refine invOpt_ite (fun _ => invOpt_none) fun _ => ?_
      split
      · -- an HTTP request: `nameOk`, or not
        exact invOpt_ite (fun _ => invOpt_some (inv_emit (inv_newInst _ _ h1 ht (iok_fresh ..))))
          fun _ => invOpt_run (inv_newInst _ _ h1 ht (iok_fresh ..))
      · -- a WebSocket request: `nameOk ∧ wsOk`, or not
        exact invOpt_ite (fun _ => invOpt_run (inv_emit (inv_newInst _ _ h1 ht (iok_fresh ..))))
          fun _ => invOpt_run (inv_newInst _ _ h1 ht (iok_fresh ..))
    · -- HTTP/2: a WebSocket head is not one of its operations, during shutdown no stream is made; then `nameOk`, or not
      exact invOpt_ite (fun _ => invOpt_none) fun _ => invOpt_ite (fun _ => invOpt_some h) fun _ =>
        invOpt_ite (fun _ => invOpt_run (inv_emit (inv_newInst _ _ (inv_stopTimer s h) ht (iok_fresh ..))))
          fun _ => invOpt_run (inv_newInst _ _ (inv_stopTimer s h) ht (iok_fresh ..))
  case body => exact invOpt_ite (fun _ => invOpt_none) fun _ => by split <;> exact invOpt_run h
  case eom => exact invOpt_ite (fun _ => invOpt_none) fun _ => by split <;> exact invOpt_run { h with }
  case h2body | h2eom | h2goaway | h2flush => exact invOpt_guard fun _ => prog_inv _ _ _ h
  case h2rst i => exact invOpt_guard fun _ => prog_inv _ _ _ (inv_setInst_same s i _ h { h.inst i with } rfl rfl)
  case paused =>
    exact invOpt_ite (fun _ => invOpt_none) fun _ => invOpt_ite (fun _ => invOpt_run h) fun _ => invOpt_some { h with }
  case needData => exact invOpt_ite (fun _ => invOpt_run h) fun _ => invOpt_guard fun _ => h
  case protoError =>
    refine invOpt_ite (fun _ => invOpt_none) fun _ => ?_
    split
    · exact invOpt_ite (fun _ => invOpt_run { h with }) fun _ => invOpt_ite (fun _ => invOpt_run { h with }) fun _ => invOpt_run { h with }
    · exact invOpt_run h
  case wsMsg | wsPing | wsPeerClose =>
    refine invOpt_ite (fun _ => invOpt_none) fun _ => ?_
    split
    · exact invOpt_guard fun _ => prog_inv _ _ _ h
    · exact invOpt_none
  case wsEarlyData =>
    refine invOpt_ite (fun _ => invOpt_none) fun _ => ?_
    split
    · exact invOpt_ite (fun _ => invOpt_none) fun _ => invOpt_ite (fun _ => invOpt_some h) fun _ => invOpt_run h
    · exact invOpt_none
  case appRecvCall i =>
    refine invOpt_ite (fun _ => invOpt_none) fun hg => ?_
    have hn : (s.inst i).inflight = none := by simp at hg; exact hg.2
    have hI := h.inst i
    split
    · exact invOpt_some (inv_setInst_same s i _ h { hI with } rfl rfl)
    · next m q' hq =>
      -- a buffered message is taken; the first blocked putter's message moves into the queue
      split
      · exact invOpt_some (inv_setInst_same s i _ h { hI with fifo := by simpa [hq, hn] using hI.fifo } rfl rfl)
      · next u m' rest hw =>
        have h2 : Inv (s.setInst i { (s.inst i) with q := q' ++ [m'], inflight := some m, direct := false, waiting := rest }) :=
          inv_setInst_same s i _ h { hI with fifo := by simpa [hq, hw, hn] using hI.fifo } rfl rfl
        split
        · exact invOpt_run { h2 with }
        · exact invOpt_some h2
  case appRecv i =>
    refine invOpt_ite (fun _ => invOpt_none) fun _ => ?_
    have hI := h.inst i
    split
    · next m hi =>
      exact invOpt_some (inv_emit (inv_setInst_same s i _ h { hI with fifo := by simpa [hi] using hI.fifo } rfl rfl))
    · next hn =>
      split
      · exact invOpt_none
      · next m q' hq =>
        split
        · exact invOpt_some (inv_emit (inv_setInst_same s i _ h { hI with fifo := by simpa [hq, hn] using hI.fifo } rfl rfl))
        · next u m' rest hw =>
          -- the two rewritings of the instance are one
          simp only [St.setInst, St.emit, upd_same, upd_upd]
          have h2 : Inv ((s.setInst i { (s.inst i) with q := q' ++ [m'], recvd := (s.inst i).recvd ++ [m], waiting := rest, waitingRecv := false, direct := false }).emit [.recv i m]) :=
            inv_emit (inv_setInst_same s i _ h { hI with fifo := by simpa [hq, hw, hn] using hI.fifo } rfl rfl)
          split
          · exact invOpt_run { h2 with }
          · exact invOpt_some h2
  case appSend i m => exact invOpt_unless fun _ => prog_inv _ _ _ h
  case appExit i => exact invOpt_unless fun _ => prog_inv _ _ _ (inv_setInst_same s i _ h { h.inst i with } rfl rfl)
  case failWrites | resumeWrites => exact invOpt_some (inv_releaseWriter _ { h with })
  case pauseWrites | failAfter | h2NoCredit | terminate => exact invOpt_some { h with }
  case h2prior | h2c => exact invOpt_guard fun _ => prog_inv _ _ _ { inv_stopTimer s h with }
  case tick d =>
    -- time passes, but not beyond an armed deadline
    have al : ∀ d', s.timer = some d' → s.armedAt ≤ s.now + d := fun d' hd' => Nat.le_trans (h.al d' hd') (Nat.le_add_right ..)
    split
    · next dl hdl =>
      refine invOpt_unless fun hg => ?_
      have hle : s.now + d ≤ dl := (show _ ∧ s.now + d ≤ dl by simpa using hg).2
      exact { h with nl := fun d' hd' => Option.some.inj (hdl.symm.trans hd') ▸ hle, al := al }
    · next hn => exact invOpt_some { h with nl := fun d' hd' => absurd (hn.symm.trans hd') nofun, al := al }
  case timerFire =>
    split
    · exact invOpt_guard fun _ => prog_inv _ _ _ (inv_disarm h)
    · exact invOpt_none
  case resume u =>
    refine invOpt_ite (fun _ => ?_) fun _ => invOpt_none
    split
    · exact invOpt_run { h with }
    · exact invOpt_none
  case handlerExit => exact invOpt_guard fun _ => inv_emit { inv_stopTimer _ (inv_closeTransport s h) with }

theorem step_inv (s s' : St) (o : Op) (h : Inv s) (hs : step s o = some s') : Inv s' := step_invOpt s o h s' hs

theorem inv_init (cfg : Cfg) : Inv (init cfg) :=
  inv_armTimer _ ⟨fun _ => iok_fresh .., nofun, nofun, nofun, nofun, nofun⟩ rfl

/-- `run` is the generic run of `step` over an operation list -/
theorem run_eq_runOps : run = HC.runOps step := by
  funext s ops
  induction ops generalizing s with
  | nil => rfl
  | cons o os ih => simp only [run, HC.runOps]; cases step s o <;> simp [ih]

theorem run_inv (s s' : St) (ops : List Op) (h : Inv s) (hr : run s ops = some s') : Inv s' :=
  HC.inv_runOps step Inv (fun _ => True) (fun s o s' _ h hs => step_inv s s' o h hs) ops s s' h (fun _ _ => trivial)
    (run_eq_runOps ▸ hr)

/-- every state reachable from the initial state of any configuration satisfies the invariant -/
theorem reachable_inv (cfg : Cfg) (ops : List Op) (s : St) (hr : run (init cfg) ops = some s) : Inv s :=
  run_inv _ _ ops (inv_init cfg) hr

end HC.Conn
