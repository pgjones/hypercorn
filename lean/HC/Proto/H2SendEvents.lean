import HC.Proto.H2Send
/-!
# Event discipline of the HTTP/2 send path (what C16 cites of the send-path model)

Two facts about the model `HC.Proto.H2Send`, kept apart from `HC/Props/C09.lean` so that C16 rests on the model alone and not on
C09's assertions about the shape of the source: `handle(Closed)` is idempotent, and every `clear()` of an event is taken by the
event's only possible waiter while it is not waiting - which is why trio's replace-the-event-on-clear wrapper is
indistinguishable from asyncio's on this code.
-/
namespace HC.Proto.H2SendEvents
open HC HC.Proto.H2Send HC.Extracted

local macro "step_cases'" hs:ident : tactic =>
  `(tactic| (simp only [step] at $hs:ident <;> (repeat' split at $hs:ident) <;>
      (first | (simp at $hs:ident; done) | (simp only [Option.some.injEq] at $hs:ident; subst $hs:ident))))

/-- `H2Protocol.handle(Closed)` twice = once (streams are already popped, buffers already closed, `has_data` already set) -/
theorem closed_idempotent (s s1 s2 : St) (h1 : step s .closed = some s1) (h2 : step s1 .closed = some s2) :
    s2.closed = s1.closed ∧ s2.hasData = s1.hasData ∧ s2.connWin = s1.connWin ∧ s2.task = s1.task ∧ ∀ i, s2.str i = s1.str i := by
  simp only [step, Option.some.injEq] at h1 h2
  subst h1
  subst h2
  refine ⟨rfl, rfl, rfl, rfl, ?_⟩
  intro i
  simp only
  cases hb : (s.str i).hasBuf <;> simp [hb, Str.closeBuf]

/-- **every `clear()` of an event is taken by the event's only possible waiter, while it is not waiting**:
    `_is_empty.clear()` (in `push`, and in `drain` of a completed buffer) — by the stream's single sender, which is then not
    parked in `drain()`; `_paused.clear()` — by the sender itself after its own `wait()`; `has_data.clear()` — by the send task
    itself after its own `wait()`.  (This is what makes trio's replace-the-event-on-clear wrapper indistinguishable from
    asyncio's on this code.) -/
theorem clear_has_no_foreign_waiter (s s' : St) (o : Op) (h : step s o = some s') :
    (∀ i n, o = .push i n → (s.str i).pusher = .idle) ∧
    (∀ i, o = .end_ i → (s.str i).pusher = .idle) ∧
    (∀ i, o = .pushWake i → (s.str i).pusher = .inPush ∧ (s'.str i).pusher = .idle) ∧
    (o = .wake → s.task = .parked ∧ s'.task = .running) := by
  refine ⟨fun i n ho => ?_, fun i ho => ?_, fun i ho => ?_, fun ho => ?_⟩ <;> subst ho <;> step_cases' h <;> simp_all [upd]

end HC.Proto.H2SendEvents
