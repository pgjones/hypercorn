import HC.Proto.H11
import HC.Lib.H11MSend
/-!
# H11Moves — what one op of `H11Protocol` can do to the fields its run invariants read

The invariants over whole runs (`C06.Inv`, `C06.Lost`, `H11Close.R`, `Gone`) read six fields of the protocol state: h11's
machine, `request_complete`, the current stream, `closed` and the two ghost counters.  `Sends a b`: what the sending side
(`_send_h11_event`, `_close_stream`, `_maybe_recycle`, hence every `stream_send` and every application send) can do to
them; `Moves a b` adds what the reader does with a result of `next_event()`.  The model is walked once, here
(`step_moves`).  The constructors are the interface: each of the four consumers (`H11Close.moves_closed`, `Moves.gone`,
`C06.moves_inv`, `C06.moves_lost`) does its own induction over them.
-/
namespace HC.Proto.H11
open HC HC.Stream HC.Lib HC.Extracted.H11Tables

/-- `_send_h11_event` changes h11's machine only, by one call; it re-raises only a refusal, and only while their side is not
    in ERROR -/
theorem libSend_call (st : St) (e : LibSend) :
    ∃ lib', (libSend st e).1 = { st with lib := lib' } ∧ H11M.LibCall st.lib lib' ∧
      ((libSend st e).2.2 = true → lib' = H11M.sendFailed st.lib ∧ lib'.client ≠ .error) := by
  have refused : ∀ x : Bool, ((H11M.sendFailed st.lib).client != .error && x) = true → (H11M.sendFailed st.lib).client ≠ .error :=
    fun x h => by simp only [Bool.and_eq_true, bne_iff_ne] at h; exact h.1
  cases e <;> simp only [libSend] <;> split
  · exact ⟨_, rfl, .info ‹_›, fun h => by cases h⟩
  · exact ⟨_, rfl, .failed _, fun h => ⟨rfl, refused _ h⟩⟩
  · exact ⟨_, rfl, .response ‹_›, fun h => by cases h⟩
  · exact ⟨_, rfl, .failed _, fun h => ⟨rfl, refused _ h⟩⟩
  · exact ⟨_, rfl, .data ‹_›, fun h => by cases h⟩
  · exact ⟨_, rfl, .failed _, fun h => ⟨rfl, refused _ h⟩⟩
  · exact ⟨_, rfl, .eom ‹_›, fun h => by cases h⟩
  · exact ⟨_, rfl, .failed _, fun h => ⟨rfl, refused _ h⟩⟩

theorem libSend_shape (st : St) (e : LibSend) : (libSend st e).1 = { st with lib := (libSend st e).1.lib } := by
  obtain ⟨lib', h, _⟩ := libSend_call st e
  rw [h]

/-- `_close_stream` forgets the current stream and touches the stream objects; nothing else -/
theorem closeStream_shape (st : St) : (closeStream st).1 = { st with cur := none, objs := (closeStream st).1.objs } := by
  unfold closeStream
  split
  · rename_i hc; cases st; simp_all
  · split <;> rfl

/-- what the sending side can do to the six fields -/
inductive Sends : St → St → Prop
  /-- whatever touches none of the six: the reader's position, `can_read`, the stream objects, the request counter, … -/
  | frame {a b : St} : b.lib = a.lib → b.requestComplete = a.requestComplete → b.cur = a.cur → b.closed = a.closed →
      b.spawns = a.spawns → b.cycles = a.cycles → Sends a b
  | trans {a b c : St} : Sends a b → Sends b c → Sends a c
  /-- `_send_h11_event` -/
  | call {a : St} {lib' : H11M.St} : H11M.LibCall a.lib lib' → Sends a { a with lib := lib' }
  /-- `_close_stream`: `self.stream = None` -/
  | unsetCur (a : St) : Sends a { a with cur := none }
  /-- `start_next_cycle()` went through; `_maybe_recycle` tries it after `_close_stream`, and only while `self.closed` is unset -/
  | recycle {a : St} {lib' : H11M.St} : a.cur = none → a.closed = false → H11M.startNextCycle a.lib = some lib' →
      Sends a { a with lib := lib', cycles := a.cycles + 1 }
  /-- `self.closed = True`: `handle(Closed)`, and `_maybe_recycle` when it does not recycle -/
  | setClosed (a : St) : Sends a { a with closed := true }

/-- what one op can do to the six fields: the sending side, and the reader taking a result of `next_event()` through h11 -/
inductive Moves : St → St → Prop
  | sends {a b : St} : Sends a b → Moves a b
  | trans {a b c : St} : Moves a b → Moves b c → Moves a c
  | recvError (a : St) : Moves a { a with lib := H11M.recvError a.lib }
  | recvClosed {a : St} {lib' : H11M.St} : H11M.recvClosed a.lib = some lib' → Moves a { a with lib := lib' }
  | recvData {a : St} {lib' : H11M.St} : H11M.recvData a.lib = some lib' → Moves a { a with lib := lib' }
  /-- `request_complete` is set when the EndOfMessage reaches a live HTTP stream -/
  | recvEom {a : St} {lib' : H11M.St} (set : Bool) : H11M.recvEom a.lib = some lib' →
      Moves a { a with lib := lib', requestComplete := set || a.requestComplete }
  /-- a `Request`: `request_complete` is reset, and this is the only place where a stream becomes the current one and an
      application instance is started (`cur` and `spawns` of `b` are free) -/
  | recvRequest {a b : St} {r : H11M.ReqInfo} : H11M.recvRequest a.lib r = some b.lib → b.requestComplete = false →
      b.closed = a.closed → b.cycles = a.cycles → Moves a b

theorem Sends.refl (a : St) : Sends a a := .frame rfl rfl rfl rfl rfl rfl

/-- the sending side never touches `request_complete` -/
theorem Sends.requestComplete {a b : St} (h : Sends a b) : b.requestComplete = a.requestComplete := by
  induction h with
  | frame _ h _ _ _ _ => exact h
  | trans _ _ ih1 ih2 => rw [ih2, ih1]
  | _ => rfl

theorem libSend_sends (st : St) (e : LibSend) : Sends st (libSend st e).1 := by
  obtain ⟨lib', h, hc, _⟩ := libSend_call st e
  rw [h]; exact .call hc

theorem closeStream_sends (st : St) : Sends st (closeStream st).1 := by
  rw [closeStream_shape]
  exact .trans (.unsetCur st) (.frame rfl rfl rfl rfl rfl rfl)

theorem maybeRecycle_sends (st : St) : Sends st (maybeRecycle st).1 := by
  have hc := closeStream_sends st
  unfold maybeRecycle
  simp only []
  split
  · rename_i hcond
    have hcl : (closeStream st).1.closed = false := by
      cases h : (closeStream st).1.closed <;> simp [h] at hcond ⊢
    split
    · rename_i lib' hl
      exact hc.trans (.trans (.recycle (by rw [closeStream_shape]) hcl hl) (.frame rfl rfl rfl rfl rfl rfl))
    · exact hc
  · exact hc.trans (.trans (.setClosed _) (.frame rfl rfl rfl rfl rfl rfl))

theorem httpStreamSend_sends (cfg : Cfg) (st : St) (e : Http.Ev) : Sends st (httpStreamSend cfg st e).1 := by
  cases e <;> simp only [httpStreamSend]
  case response => split <;> exact libSend_sends _ _
  case body => exact libSend_sends _ _
  case endBody => exact libSend_sends _ _
  case streamClosed => exact maybeRecycle_sends st
  all_goals exact .refl _

theorem wsStreamSend_sends (cfg : Cfg) (st : St) (e : Ws.Ev) : Sends st (wsStreamSend cfg st e).1 := by
  cases e <;> simp only [wsStreamSend]
  case response => split <;> exact libSend_sends _ _
  case body => exact libSend_sends _ _
  case endBody => exact libSend_sends _ _
  case streamClosed => exact maybeRecycle_sends st
  all_goals exact .refl _

theorem runHttpEvs_sends (cfg : Cfg) : ∀ (evs : List Http.Ev) (st : St), Sends st (runHttpEvs cfg st evs).1
  | [], st => .refl st
  | e :: es, st => by
    simp only [runHttpEvs]
    split
    · exact httpStreamSend_sends cfg st e
    · exact (httpStreamSend_sends cfg st e).trans (runHttpEvs_sends cfg es _)

theorem runWsEvs_sends (cfg : Cfg) : ∀ (evs : List Ws.Ev) (st : St), Sends st (runWsEvs cfg st evs).1
  | [], st => .refl st
  | e :: es, st => by
    simp only [runWsEvs]
    split
    · exact wsStreamSend_sends cfg st e
    · exact (wsStreamSend_sends cfg st e).trans (runWsEvs_sends cfg es _)

theorem Sends.ite_fst {β : Type} {a : St} {c : Prop} [Decidable c] {x y : St × β} (hx : Sends a x.1) (hy : Sends a y.1) :
    Sends a (if c then x else y).1 := by
  split <;> assumption

/-- the reader's result `{ x.1 with pc := p }` read off the equation, for a variable `x`: the obvious `cases` on the equation
    with the model's term in place of `x` is slow to check (the record update stands for thirteen copies of it) -/
theorem Sends.of_pc_eq {a : St} {x : St × List Out} {p : Pc} {o : List Out} {res : St × List Out} (hx : Sends a x.1)
    (h : some ({ x.1 with pc := p }, o) = some res) : Sends a res.1 := by
  cases h; exact hx.trans (.frame rfl rfl rfl rfl rfl rfl)

/-- the tail of the reader's handling of an HTTP `Request`: the new stream's own 404 unless the server name is known, then the
    request counter -/
theorem sends_own404 (cfg : Cfg) (a : St) (c : Prop) [Decidable c] (evs : List Http.Ev) (n : Nat) :
    Sends a { (if c then (a, ([] : List Out), false) else runHttpEvs cfg a evs).1 with keepAliveRequests := n } :=
  (Sends.ite_fst (.refl a) (runHttpEvs_sends cfg evs a)).trans (.frame rfl rfl rfl rfl rfl rfl)

/-- replacing a stream object is invisible to the six fields -/
theorem setObj_sends (st : St) (i : Nat) (o : Stream) : Sends st (st.setObj i o) := .frame rfl rfl rfl rfl rfl rfl

theorem appSendHttp_sends (cfg : Cfg) (st : St) (i : Nat) (m : Option Http.Msg) : Sends st (appSendHttp cfg st i m).1 := by
  unfold appSendHttp
  split
  · simp only []
    split
    · exact ((setObj_sends _ _ _).trans (runHttpEvs_sends cfg _ _)).trans (setObj_sends _ _ _)
    · exact (setObj_sends _ _ _).trans (runHttpEvs_sends cfg _ _)
  · exact .refl _

theorem appSendWs_sends (cfg : Cfg) (token : Bytes → Bytes) (ext : Option Bytes) (st : St) (i : Nat) (m : Option Ws.Msg) :
    Sends st (appSendWs cfg token ext st i m).1 := by
  unfold appSendWs
  split
  · simp only []
    split
    · exact ((setObj_sends _ _ _).trans (runWsEvs_sends cfg _ _)).trans (setObj_sends _ _ _)
    · exact (setObj_sends _ _ _).trans (runWsEvs_sends cfg _ _)
  · exact .refl _

theorem loopTop_sends (cfg : Cfg) (st : St) : Sends st (loopTop cfg st).1 := by
  unfold loopTop
  split
  · exact libSend_sends _ _
  · exact .refl _

/-- the 100 Continue at the loop top does not bring h11's client side to IDLE -/
theorem loopTop_idle (cfg : Cfg) (st : St) (h : (loopTop cfg st).1.lib.client = .idle) : st.lib.client = .idle := by
  unfold loopTop at h
  split at h
  · obtain ⟨lib', he, hc, _⟩ := libSend_call st (.info 100 cfg.serverHeaders)
    rw [he] at h
    exact hc.after.1 h
  · exact h

/-- **a `Request` that the reader accepts**: h11 took it in the state the reader found, `request_complete` is reset,
    the connection is neither closed nor recycled by it; whatever follows (the 101 of an h2c upgrade, the new stream's own
    404 / 400) is on the sending side -/
theorem onLibEvBody_request {cfg : Cfg} {st : St} {o0 : List Out} {r : ReqEv} {res : St × List Out}
    (h : onLibEvBody cfg st o0 (.request r) = some res) :
    ∃ st1 : St, H11M.recvRequest st.lib (reqInfo r) = some st1.lib ∧ st1.requestComplete = false ∧ st1.closed = st.closed ∧
      st1.cycles = st.cycles ∧ Sends st1 res.1 := by
  simp only [onLibEvBody] at h
  split at h
  · cases h
  · rename_i lib' hl
    split at h
    · cases h
      exact ⟨{ st with lib := lib', requestComplete := false }, hl, rfl, rfl, rfl,
        (libSend_sends _ _).trans (.frame rfl rfl rfl rfl rfl rfl)⟩
    · cases h
      exact ⟨{ st with lib := lib', requestComplete := false }, hl, rfl, rfl, rfl, .frame rfl rfl rfl rfl rfl rfl⟩
    · split at h
      · split at h
        · cases h
        · rename_i s puts evs _
          cases h
          exact ⟨{ (St.newObj { st with lib := lib', requestComplete := false } (.ws s)) with
              wsMode := true, spawns := if s.hasAppPut then st.spawns + 1 else st.spawns }, hl, rfl, rfl, rfl,
            (runWsEvs_sends cfg evs _).trans (.frame rfl rfl rfl rfl rfl rfl)⟩
      · cases h
        let sc := scopeOf cfg r (isWebsocketRequest r)
        let ok := validServerName cfg sc.headers
        exact ⟨{ (St.newObj { st with lib := lib', requestComplete := false }
              (.http { method := sc.method, version := sc.version, reqHeaders := sc.headers, hasAppPut := ok, closed := !ok,
                       st := if ok then .request else .closed })) with spawns := if ok then st.spawns + 1 else st.spawns },
          hl, rfl, rfl, rfl, sends_own404 cfg _ _ _ _⟩

theorem onLibEvBody_moves (cfg : Cfg) (st : St) (o0 : List Out) (e : LibEv) (res : St × List Out)
    (h : onLibEvBody cfg st o0 e = some res) : Moves st res.1 := by
  cases e with
  | request r =>
    obtain ⟨st1, hl, h1, h2, h3, hs⟩ := onLibEvBody_request h
    exact .trans (.recvRequest hl h1 h2 h3) (.sends hs)
  | protoError hint =>
    simp only [onLibEvBody] at h
    refine .trans (.recvError st) (.sends ?_)
    split at h
    · exact Sends.of_pc_eq (x := (_, o0)) (.refl _) h
    · -- the error response (head, EndOfMessage) while h11's writer has not begun one
      refine Sends.of_pc_eq (Sends.ite_fst ?_ (.refl _)) h
      exact (libSend_sends _ _).trans (libSend_sends _ _)
  | paused =>
    simp only [onLibEvBody] at h
    split at h <;> (cases h; exact .sends (.frame rfl rfl rfl rfl rfl rfl))
  | needData =>
    simp only [onLibEvBody] at h
    cases h; exact .sends (.frame rfl rfl rfl rfl rfl rfl)
  | connClosed =>
    simp only [onLibEvBody] at h
    split at h
    · cases h
    · rename_i lib' hl
      cases h; exact .trans (.recvClosed hl) (.sends (.frame rfl rfl rfl rfl rfl rfl))
  | data d =>
    simp only [onLibEvBody] at h
    split at h
    · cases h
    · rename_i lib' hl
      have hm : ∀ b : St, b.lib = lib' → b.requestComplete = st.requestComplete → b.cur = st.cur → b.closed = st.closed →
          b.spawns = st.spawns → b.cycles = st.cycles → Moves st b :=
        fun b h1 h2 h3 h4 h5 h6 => .trans (.recvData hl) (.sends (.frame h1 h2 h3 h4 h5 h6))
      split at h
      · cases h; exact hm _ rfl rfl rfl rfl rfl rfl
      · cases h
      · cases h; exact hm _ rfl rfl rfl rfl rfl rfl
  | eom =>
    simp only [onLibEvBody] at h
    split at h
    · cases h
    · rename_i lib' hl
      split at h
      · cases h; exact .trans (.recvEom true hl) (.sends (.frame rfl rfl rfl rfl rfl rfl))
      · cases h
      · cases h
        refine .trans (.recvEom false hl) (.sends (.frame rfl ?_ rfl rfl rfl rfl))
        simp
  | wsData d evs =>
    simp only [onLibEvBody] at h
    split at h
    · split at h
      · cases h
      · split at h
        · cases h
        · split at h <;> (cases h; exact .sends ((setObj_sends _ _ _).trans (runWsEvs_sends cfg _ _)))
    · cases h; exact .sends (.frame rfl rfl rfl rfl rfl rfl)

theorem onLibEv_eq {cfg : Cfg} {st : St} {e : LibEv} {res : St × List Out} (h : onLibEv cfg st e = some res) :
    onLibEvBody cfg (loopTop cfg st).1 (loopTop cfg st).2 e = some res := by
  unfold onLibEv at h
  split at h
  · cases h
  · exact h

/-- **every op of the model is a sequence of these moves** -/
theorem step_moves (cfg : Cfg) (token : Bytes → Bytes) (ext : Option Bytes) (st st' : St) (op : Op) (outs : List Out)
    (err : Option PyErr) (hs : step cfg token ext st op = some (st', outs, err)) : Moves st st' := by
  cases op with
  | begin =>
    simp only [step] at hs
    split at hs
    · cases hs; exact .sends (.frame rfl rfl rfl rfl rfl rfl)
    · cases hs
  | terminate => cases hs; exact .sends (.frame rfl rfl rfl rfl rfl rfl)
  | closed =>
    cases hs
    exact .sends ((closeStream_sends st).trans (.trans (.setClosed _) (.frame rfl rfl rfl rfl rfl rfl)))
  | sendHttp i m =>
    have : (appSendHttp cfg st i m).1 = st' := congrArg Prod.fst (Option.some.inj hs)
    exact this ▸ .sends (appSendHttp_sends cfg st i m)
  | sendWs i m =>
    have : (appSendWs cfg token ext st i m).1 = st' := congrArg Prod.fst (Option.some.inj hs)
    exact this ▸ .sends (appSendWs_sends cfg token ext st i m)
  | ev e =>
    simp only [step, Option.map_eq_some_iff] at hs
    obtain ⟨res, hev, heq⟩ := hs
    cases heq
    exact .trans (.sends (loopTop_sends cfg st)) (onLibEvBody_moves cfg _ _ e res (onLibEv_eq hev))

end HC.Proto.H11
