import HC.Proto.H11Ev
/-!
# H11Safe — whole runs of `H11Protocol`: no op makes an exception escape the connection handler

Ops are those of `HC.Proto.H11.step` plus `deferredClose`, the `stream_send(StreamClosed)` a stream spawns after it answered a
request by itself (404 / 400): it runs `_maybe_recycle` at some later point.  `enabled`: the op is one the libraries
(`libPossible`) and the scheduler can produce in this state; `LibWf`: every op of a run is enabled in the state the model
reaches; `ev_ok` / `step_ok`: an enabled op from a state with the invariant lets nothing escape and keeps the invariant (last of
the chain H11Total → H11Inv → H11Run → H11Ev → H11Safe).
-/
namespace HC.Proto.H11
open HC HC.Stream HC.Lib HC.Extracted.H11Tables

/-- one enabled library event: the loop top's 100 Continue goes through (`loopTop_ok`), then the `ev_*` lemma of the event -/
theorem ev_ok (cfg : Cfg) (st : St) (g : Ws.Frag) (e : LibEv) (hI : Inv st g) (hpc : st.pc = .inLoop) (hsw : st.switched = false)
    (hp : libPossible cfg st g e = true) (hdec : decodeSitesTotal = true) (hname : Ws.Handshake.NamesLowered) :
    escapeEv cfg st e = none ∧ ∃ res, onLibEv cfg st e = some res ∧ Inv res.1 (ghostEv g e) := by
  obtain ⟨htop, hI1, hw1⟩ := loopTop_ok cfg st g hI hsw
  have hshape := loopTop_shape cfg st
  have hpc1 : (loopTop cfg st).1.pc = .inLoop := by rw [hshape]; exact hpc
  have hsw1 : (loopTop cfg st).1.switched = false := by rw [hshape]; exact hsw
  have hw1' : (loopTop cfg st).1.lib.waiting100 = false ∨ (loopTop cfg st).1.wsMode = true := by
    rcases hw1 with h | h
    · exact Or.inl h
    · exact Or.inr (by rw [(loopTop_objs cfg st).2.1]; exact h)
  unfold libPossible at hp
  have hon : onLibEv cfg st e = onLibEvBody cfg (loopTop cfg st).1 (loopTop cfg st).2 e := by
    simp [onLibEv, hpc, hsw]
  have hesc : escapeEv cfg st e = escapeBody cfg (loopTop cfg st).1 e := by
    unfold escapeEv; rw [htop]; simp
  rw [hon, hesc]
  cases e with
  | request r => exact ev_request cfg _ _ g r hI1 hpc1 hsw1 hp hdec hname
  | data d => exact ⟨rfl, ev_data cfg _ _ g d hI1 hp⟩
  | eom => exact ⟨rfl, ev_eom cfg _ _ g hI1 hp⟩
  | connClosed => exact ⟨rfl, ev_connClosed cfg _ _ g hI1 hw1' hp⟩
  | needData => exact ⟨rfl, ev_needData cfg _ _ g hI1 hw1'⟩
  | paused => exact ⟨rfl, ev_paused cfg _ _ g hI1 hw1'⟩
  | protoError hint => exact ev_protoError cfg _ _ g hint hI1 hw1' hp
  | wsData d evs => exact ev_wsData cfg _ _ g d evs hI1 hp

/-- the ops of `step`, plus the deferred `stream_send(StreamClosed)` of a stream that answered by itself -/
inductive OpT where
  | op (o : Op)
  | deferredClose
deriving Repr, DecidableEq

def stepT (cfg : Cfg) (token : Bytes → Bytes) (ext : Option Bytes) (st : St) : OpT → Option (St × List Out × Option PyErr)
  | .op o => step cfg token ext st o
  | .deferredClose => some ((maybeRecycle st).1, (maybeRecycle st).2, none)

/-- meaning (b) for a whole op: only the reader's ops can let an exception out of the connection handler (what `app_send`
    raises goes to the application: C12) -/
def escapeT (cfg : Cfg) (st : St) : OpT → Option Escape
  | .op (.ev e) => escapeEv cfg st e
  | _ => none

/-- meaning (a): the op is one the libraries and the scheduler can produce in this state (`LibWf`, executable) -/
def enabled (cfg : Cfg) (st : St) (g : Ws.Frag) : OpT → Bool
  | .op .begin => st.pc == .idle                                   -- the server awaits `handle(RawData)` before it reads again
  | .op (.ev e) => st.pc == .inLoop && !st.switched && libPossible cfg st g e
  | .op (.sendHttp _ _) => sched st
  | .op (.sendWs _ _) => sched st
  | .op .closed => true
  | .op .terminate => true
  | .deferredClose => true

def ghostT (g : Ws.Frag) : OpT → Ws.Frag
  | .op (.ev e) => ghostEv g e
  | _ => g

/-- **one op**: enabled and started from the invariant, it lets nothing escape, is accepted by the model and keeps the invariant -/
theorem step_ok (cfg : Cfg) (token : Bytes → Bytes) (ext : Option Bytes) (st : St) (g : Ws.Frag) (o : OpT) (hI : Inv st g)
    (hen : enabled cfg st g o = true) (hdec : decodeSitesTotal = true) (hname : Ws.Handshake.NamesLowered) :
    escapeT cfg st o = none ∧ ∃ r, stepT cfg token ext st o = some r ∧ Inv r.1 (ghostT g o) := by
  cases o with
  | deferredClose => exact ⟨rfl, _, rfl, inv_maybeRecycle hI⟩
  | op o =>
    cases o with
    | begin =>
      simp only [enabled, beq_iff_eq] at hen
      refine ⟨rfl, ({ st with pc := .inLoop }, [], none), by simp [stepT, step, hen], ?_⟩
      exact inv_frame hI rfl rfl rfl id (fun i s h hs => hI.live i s h hs) (fun _ => hI.hand rfl)
        (fun h1 h2 h3 => ⟨(hI.wait h1 h2 h3).1, rfl⟩)
    | ev e =>
      simp only [enabled, Bool.and_eq_true, beq_iff_eq, Bool.not_eq_true'] at hen
      obtain ⟨hesc, res, hres, hinv⟩ := ev_ok cfg st g e hI hen.1.1 hen.1.2 hen.2 hdec hname
      exact ⟨hesc, (res.1, res.2, none), by simp [stepT, step, hres], hinv⟩
    | sendHttp i m => exact ⟨rfl, _, rfl, appSendHttp_inv cfg st g i m hI hen⟩
    | sendWs i m => exact ⟨rfl, _, rfl, appSendWs_inv cfg token ext st g i m hI⟩
    | closed =>
      have hI1 : Inv (closeStream st).1 g := inv_closeStream hI
      let st' : St := { (closeStream st).1 with
        closed := true, canRead := true, pc := if (closeStream st).1.pc == .parked then .inLoop else (closeStream st).1.pc }
      refine ⟨rfl, (st', (closeStream st).2, none), rfl, ?_⟩
      refine inv_frame hI1 rfl rfl rfl id (fun i s h hs => hI1.live i s h hs) (fun _ => hI1.hand rfl) ?_
      intro h1 h2 h3
      have := hI1.wait h1 h2 h3
      refine ⟨this.1, ?_⟩
      show (if (closeStream st).1.pc == .parked then Pc.inLoop else (closeStream st).1.pc) = .inLoop
      rw [this.2]; rfl
    | terminate =>
      exact ⟨rfl, _, rfl, inv_frame hI rfl rfl rfl id (fun i s h hs => hI.live i s h hs) (fun _ => hI.hand rfl) (fun h1 h2 h3 => hI.wait h1 h2 h3)⟩

/-- `LibWf` along a run: every op is enabled in the state the model reaches -/
def LibWf (cfg : Cfg) (token : Bytes → Bytes) (ext : Option Bytes) : St → Ws.Frag → List OpT → Prop
  | _, _, [] => True
  | st, g, o :: os => enabled cfg st g o = true ∧ ∀ r, stepT cfg token ext st o = some r → LibWf cfg token ext r.1 (ghostT g o) os

/-- executable form of `LibWf` (what the driver evaluates on tapped sessions) -/
def libWfB (cfg : Cfg) (token : Bytes → Bytes) (ext : Option Bytes) : St → Ws.Frag → List OpT → Bool
  | _, _, [] => true
  | st, g, o :: os => enabled cfg st g o && (match stepT cfg token ext st o with
      | none => true
      | some r => libWfB cfg token ext r.1 (ghostT g o) os)

theorem libWfB_sound (cfg : Cfg) (token : Bytes → Bytes) (ext : Option Bytes) : ∀ (ops : List OpT) (st : St) (g : Ws.Frag),
    libWfB cfg token ext st g ops = true → LibWf cfg token ext st g ops := by
  intro ops
  induction ops with
  | nil => intro st g _; trivial
  | cons o os ih =>
    intro st g h
    simp only [libWfB, Bool.and_eq_true] at h
    refine ⟨h.1, fun r hr => ?_⟩
    have h2 := h.2
    rw [hr] at h2
    exact ih _ _ h2

/-- along the run no op lets an exception escape, and every op is accepted by the model (never `none` = "rejected") -/
def NoEscape (cfg : Cfg) (token : Bytes → Bytes) (ext : Option Bytes) : St → Ws.Frag → List OpT → Prop
  | _, _, [] => True
  | st, g, o :: os => escapeT cfg st o = none ∧ ∃ r, stepT cfg token ext st o = some r ∧ NoEscape cfg token ext r.1 (ghostT g o) os

theorem noEscape_of_inv (cfg : Cfg) (token : Bytes → Bytes) (ext : Option Bytes) (hdec : decodeSitesTotal = true)
    (hname : Ws.Handshake.NamesLowered) :
    ∀ (ops : List OpT) (st : St) (g : Ws.Frag),
    Inv st g → LibWf cfg token ext st g ops → NoEscape cfg token ext st g ops := by
  intro ops
  induction ops with
  | nil => intro st g _ _; trivial
  | cons o os ih =>
    intro st g hI hwf
    obtain ⟨hen, hrest⟩ := hwf
    obtain ⟨hesc, r, hr, hinv⟩ := step_ok cfg token ext st g o hI hen hdec hname
    exact ⟨hesc, r, hr, ih _ _ hinv (hrest r hr)⟩

/-- the state after a run (when every op was accepted) -/
def runT (cfg : Cfg) (token : Bytes → Bytes) (ext : Option Bytes) : St → List OpT → Option St
  | st, [] => some st
  | st, o :: os => match stepT cfg token ext st o with
    | none => none
    | some r => runT cfg token ext r.1 os

theorem runT_some_of_noEscape (cfg : Cfg) (token : Bytes → Bytes) (ext : Option Bytes) : ∀ (ops : List OpT) (st : St) (g : Ws.Frag),
    NoEscape cfg token ext st g ops → (runT cfg token ext st ops).isSome = true := by
  intro ops
  induction ops with
  | nil => intro st g _; rfl
  | cons o os ih =>
    intro st g h
    obtain ⟨_, r, hr, hrest⟩ := h
    simp only [runT, hr]
    exact ih _ _ hrest

end HC.Proto.H11
