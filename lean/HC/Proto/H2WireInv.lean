import HC.Props.C09
import HC.Proto.H2Wire
/-!
# H2WireInv — invariants of the send path with contents (`HC.Proto.H2Wire`), used by `HC.Props.C02.h2_response_delivered`

For one stream `i` whose stream events arrive in the order `HTTPStream` produces (head, body*, trailers*, end, closed) and
as long as the stream is not reset and the connection not closed (`Good`), the frames written for `i` are: the response
head, then DATA frames holding — together with what is still buffered — exactly the body bytes handed over so far, then
(once `ended`) the one frame that ends the stream, carrying the pending trailers.
-/
namespace HC.Proto.H2Wire
open HC HC.Proto.H2Send HC.Proto.Heads HC.Props.C09 HC.Extracted

/-! ### lists -/

theorem wireOf_append (i : Nat) (a b : List (Nat × Frame)) : wireOf i (a ++ b) = wireOf i a ++ wireOf i b := by
  simp [wireOf, List.filter_append]

theorem wireOf_tagged (i j : Nat) (l : List Frame) : wireOf i (l.map (fun f => (j, f))) = if j = i then l else [] := by
  induction l with
  | nil => simp [wireOf]
  | cons a t ih =>
    simp only [wireOf, List.map_cons, List.filter_cons] at *
    by_cases h : j = i <;> simp_all

@[simp] theorem dataOf_append (a b : List Frame) : dataOf (a ++ b) = dataOf a ++ dataOf b := by
  induction a with
  | nil => rfl
  | cons x xs ih => cases x <;> simp [dataOf, ih]

theorem filter_isData (w : List Frame) : w.filter Frame.isData = (payloads w).map Frame.data ∧ (payloads w).flatten = dataOf w := by
  induction w with
  | nil => simp [payloads, dataOf]
  | cons x xs ih => cases x <;> simp [payloads, dataOf, Frame.isData, List.filter_cons, ih.1, ih.2]

/-- head frames first, then DATA, then the frame that ends the stream — and nothing else (no RST_STREAM) -/
def Sorted (w : List Frame) : Prop := w = w.filter Frame.isHead ++ w.filter Frame.isData ++ w.filter Frame.isEnd

theorem sorted_nil : Sorted [] := by simp [Sorted]

theorem sorted_snoc_data (w : List Frame) (d : Bytes) (h : Sorted w) (he : w.filter Frame.isEnd = []) : Sorted (w ++ [.data d]) := by
  unfold Sorted at *
  rw [he, List.append_nil] at h
  simp only [List.filter_append, he, List.filter_cons, Frame.isHead, Frame.isData, Frame.isEnd, List.filter_nil, List.append_nil,
    Bool.false_eq_true, if_false, if_true]
  rw [← List.append_assoc, ← h]

theorem sorted_snoc_end (w : List Frame) (f : Frame) (h : Sorted w) (hf : f.isEnd = true) (hh : f.isHead = false) (hd : f.isData = false) :
    Sorted (w ++ [f]) := by
  unfold Sorted at *
  simp only [List.filter_append, List.filter_cons, hf, hh, hd, List.filter_nil, List.append_nil, Bool.false_eq_true, if_false, if_true]
  rw [← List.append_assoc, ← h]

theorem endFrame_kind (t : Headers) : (endFrame t).isEnd = true ∧ (endFrame t).isHead = false ∧ (endFrame t).isData = false ∧ dataOf [endFrame t] = [] := by
  unfold endFrame; split <;> simp [Frame.isEnd, Frame.isHead, Frame.isData, dataOf]

/-! ### phases -/

theorem tr_ne_zero (p : Nat) (o : AOp) : tr p o ≠ 0 := by
  cases o <;> simp only [tr] <;> split <;> omega

theorem ph_zero (h : List AOp) : ph h = 0 ↔ h = [] := by
  cases h with
  | nil => simp [ph]
  | cons o r => simp [ph, tr_ne_zero]

theorem ph_range (h : List AOp) : ph h ≤ 4 ∨ ph h = 9 := by
  induction h with
  | nil => simp [ph]
  | cons o r ih => cases o <;> simp only [ph, tr] <;> split <;> omega

theorem tr_nine (a : AOp) : tr 9 a = 9 := by cases a <;> simp [tr]

/-- the phase a stream event must find for the order to stay `HTTPStream`'s -/
theorem ph_cons {a : AOp} {r : List AOp} : ph (a :: r) ≠ 9 →
    match a with
    | .head .. => ph r = 0
    | .body _ => ph r = 1
    | .trailers _ | .end_ => ph r = 1 ∨ ph r = 2
    | .closed => ph r = 3 := by
  intro h
  cases a <;> simp only [ph, tr] at h ⊢ <;> split at h <;> first | assumption | exact absurd rfl h

/-! ### reading a history: each reader turns `++` around -/

theorem bodyOf_append (x y : List AOp) : bodyOf (x ++ y) = bodyOf y ++ bodyOf x := by
  induction x with
  | nil => simp [bodyOf]
  | cons a t ih => cases a <;> simp [bodyOf, ih]

theorem trlOf_append (x y : List AOp) : trlOf (x ++ y) = trlOf y ++ trlOf x := by
  induction x with
  | nil => simp [trlOf]
  | cons a t ih => cases a <;> simp [trlOf, ih]

theorem headsOf_append (srv : Headers) (x y : List AOp) : headsOf srv (x ++ y) = headsOf srv y ++ headsOf srv x := by
  induction x with
  | nil => simp [headsOf]
  | cons a t ih => cases a <;> simp [headsOf, ih]

theorem bodyOf_reverse (l : List AOp) : bodyOf l.reverse = l.flatMap (fun a => bodyOf [a]) := by
  induction l with
  | nil => rfl
  | cons a t ih => rw [List.reverse_cons, bodyOf_append, ih]; rfl

theorem trlOf_reverse (l : List AOp) : trlOf l.reverse = l.flatMap (fun a => trlOf [a]) := by
  induction l with
  | nil => rfl
  | cons a t ih => rw [List.reverse_cons, trlOf_append, ih]; rfl

theorem headsOf_reverse (srv : Headers) (l : List AOp) : headsOf srv l.reverse = l.flatMap (fun a => headsOf srv [a]) := by
  induction l with
  | nil => rfl
  | cons a t ih => rw [List.reverse_cons, headsOf_append, ih]; rfl

theorem bodyOf_cons (a : AOp) (h : List AOp) : bodyOf (a :: h) = bodyOf h ++ bodyOf [a] := bodyOf_append [a] h
theorem trlOf_cons (a : AOp) (h : List AOp) : trlOf (a :: h) = trlOf h ++ trlOf [a] := trlOf_append [a] h
theorem headsOf_cons (srv : Headers) (a : AOp) (h : List AOp) : headsOf srv (a :: h) = headsOf srv h ++ headsOf srv [a] :=
  headsOf_append srv [a] h

/-! ### one step of `H2Send`, seen from one stream -/

def isAppOp : Op → Bool
  | .push _ _ | .end_ _ | .abandon _ => true
  | _ => false

/-- a reset stream stays reset, and only `push` makes a buffer grow -/
theorem step_mono {s s' : St} {o : Op} (hs : step s o = some s') (j : Nat) :
    ((s.str j).libClosed = true → (s'.str j).libClosed = true) ∧ ((∀ i n, o ≠ .push i n) → (s'.str j).buf ≤ (s.str j).buf) := by
  rcases step_at hs j with ⟨_, _, hl, rfl⟩ | ⟨i, _, _, hji, hl, rfl⟩ | ⟨_, _, hg, rfl⟩
  · simp only [upd_same]
    cases hl <;> refine ⟨fun h => ?_, fun hp => ?_⟩ <;>
      first | exact h | exact absurd rfl (hp _ _) | exact Nat.le_refl _ | exact Nat.sub_le _ _ | str_finish
  · simp only [upd_other _ _ _ _ hji]; exact ⟨id, fun _ => Nat.le_refl _⟩
  · cases hg <;> refine ⟨fun h => ?_, fun _ => ?_⟩ <;> first | exact h | exact Nat.le_refl _ | str_finish

theorem closed_mono (s s' : St) (o : Op) (hs : step s o = some s') (h : s.closed = true) : s'.closed = true := by
  cases step_rel s s' o hs with
  | one hl => cases hl <;> exact h
  | all hg => cases hg <;> first | exact h | rfl

/-- nothing that matters to the wire changed for the stream -/
def Same (x x' : Str) : Prop :=
  x'.opened = x.opened ∧ x'.complete = x.complete ∧ x'.ended = x.ended ∧ x'.hasBuf = x.hasBuf ∧ x'.buf = x.buf ∧ x'.sent = x.sent ∧
  x'.libClosed = x.libClosed ∧ (x'.pusher = .inAbandon → x.pusher = .inAbandon)

theorem same_refl (x : Str) : Same x x := ⟨rfl, rfl, rfl, rfl, rfl, rfl, rfl, id⟩

/-- `_create_stream` -/
def KOpen (x x' : Str) : Prop :=
  x.opened = false ∧ x'.opened = true ∧ x'.hasBuf = true ∧ x'.complete = false ∧ x'.ended = false ∧ x'.buf = 0 ∧ x'.sent = 0 ∧
  x'.libClosed = false ∧ x'.pusher = .idle

/-- `_send_data` took `sent' − sent > 0` bytes from the front of the buffer and handed them to `send_data` -/
def KData (x x' : Str) : Prop :=
  x.sent < x'.sent ∧ x'.sent - x.sent ≤ x.buf ∧ x'.buf = x.buf - (x'.sent - x.sent) ∧ x.hasBuf = true ∧ x'.hasBuf = true ∧
  x'.ended = x.ended ∧ x'.complete = x.complete ∧ x'.opened = x.opened ∧ x'.libClosed = x.libClosed ∧ x'.pusher = x.pusher

/-- `_send_data` found the buffer complete and empty: `_end_stream` -/
def KEnd (x x' : Str) : Prop :=
  x.hasBuf = true ∧ x'.hasBuf = true ∧ x.ended = false ∧ x'.ended = true ∧ x.complete = true ∧ x'.complete = true ∧ x.buf = 0 ∧ x'.buf = 0 ∧
  x'.sent = x.sent ∧ x'.opened = x.opened ∧ x'.libClosed = x.libClosed ∧ x'.pusher = x.pusher

/-- the buffer of an ended stream (or no buffer at all) is forgotten -/
def KDiscard (x x' : Str) : Prop :=
  x'.hasBuf = false ∧ x'.buf = 0 ∧ x.buf = 0 ∧ x'.sent = x.sent ∧ x'.ended = x.ended ∧ x'.opened = x.opened ∧ x'.libClosed = x.libClosed ∧
  x'.pusher = x.pusher ∧ (x.hasBuf = true → x.ended = true ∧ x'.complete = true) ∧ (x.hasBuf = false → x'.complete = x.complete)

/-- **what one step of the send path can do to one stream** (every op but the three stream events `push` / `end_` /
    `abandon`): close the connection, reset the stream, nothing that matters, or — only when the op serves this very stream —
    open it, send DATA from the front of its buffer, end it, forget its buffer after the end -/
theorem step_kind (s s' : St) (o : Op) (hI : Inv s) (hs : step s o = some s') (hno : isAppOp o = false) (i : Nat) :
    s'.closed = true ∨ (s'.str i).libClosed = true ∨ Same (s.str i) (s'.str i) ∨
    (opSid o = some i ∧ (KOpen (s.str i) (s'.str i) ∨ KData (s.str i) (s'.str i) ∨ KEnd (s.str i) (s'.str i) ∨ KDiscard (s.str i) (s'.str i))) := by
  have hE := hI.ending i
  have hA := hI.aband i
  have hF := hI.fin i
  unfold Same KOpen KData KEnd KDiscard
  have hr := step_at hs i
  clear hs hI
  rcases hr with ⟨_, _, hl, rfl⟩ | ⟨k, _, _, hik, hl, rfl⟩ | ⟨_, _, hg, rfl⟩
  · -- the op serves stream `i`: which alternative each branch of `step` lands in
    simp only [upd_same]
    cases hl <;> simp only [isAppOp, Bool.true_eq_false] at hno <;> simp only [opSid]
    case open_ => exact .inr (.inr (.inr ⟨trivial, .inl (by str_finish)⟩))
    case pickData => exact .inr (.inr (.inr ⟨trivial, .inr (.inl (by str_finish))⟩))
    case pickEnd | sentEnd => exact .inr (.inr (.inr ⟨trivial, .inr (.inr (.inl (by str_finish)))⟩))
    -- END_STREAM is flushed: the task was ending a stream that is `ended` (`Ending`), so nothing is buffered (`Fin`)
    case endSent => exact .inr (.inr (.inr ⟨trivial, .inr (.inr (.inr (by str_finish)))⟩))
    -- reset by the peer; reset by us: `abandonFin` follows the RST_STREAM of an abandoned response (`Aband`)
    case rst | abandonFin => exact .inr (.inl (by str_finish))
    -- the `except` clause of `_send_data`: without a buffer nothing that matters changes; on a reset stream it stays reset;
    -- h2 has forgotten an `ended` stream: its buffer (empty, by `Fin`) is forgotten too
    case pickDiscard | sentDiscard =>
      rename_i hg
      rcases hg with hb | ⟨hl, -⟩
      · exact .inr (.inr (.inl (by str_finish)))
      · exact .inr (.inl (by str_finish))
    case pickRaise =>
      rename_i hg
      rcases hg with hl | he
      · exact .inr (.inl (by str_finish))
      · cases hb : (s.str i).hasBuf
        · exact .inr (.inr (.inl (by str_finish)))
        · exact .inr (.inr (.inr ⟨trivial, .inr (.inr (.inr (by str_finish)))⟩))
    -- `pushWake`, `drainWake`, `pickBlock`, `sentMore`, `winStream`: events, blocking and windows only
    all_goals exact .inr (.inr (.inl (by str_finish)))
  · simp only [upd_other _ _ _ _ hik]; simp
  · -- `closed` closes the connection; `exit` runs on a closed one; `park`, `wake`, window and priority changes do not matter
    cases hg <;> simp only [opSid] <;> str_finish

/-- the byte count of a buffer grows exactly when `StreamBuffer.push` is reached (a member of the tree with a buffer that is not
    complete), by the `n` bytes pushed; a `push` that is swallowed before that leaves every count alone -/
theorem push_buf {s s' : St} {i n : Nat} (hs : step s (.push i n) = some s') (j : Nat) :
    (s'.str j).buf = (s.str j).buf +
      if j = i ∧ ((s.str i).inTree && (s.str i).hasBuf && !(s.str i).complete) = true then n else 0 := by
  cases step_rel _ _ _ hs with
  | all hg => cases hg
  | one hl =>
    cases hl <;> by_cases hji : j = i <;> simp_all [upd]
    rename_i hsw _; rcases hsw with h | h <;> simp [h]

/-- what the three stream events of the send path do to the record of their stream -/
theorem app_fields {s s' : St} {o : Op} {i : Nat} (hs : step s o = some s') (ha : isAppOp o = true) (hi : opSid o = some i) :
    (s'.str i).opened = (s.str i).opened ∧ (s'.str i).ended = (s.str i).ended ∧ (s'.str i).hasBuf = (s.str i).hasBuf ∧
    (s'.str i).sent = (s.str i).sent ∧ (s'.str i).complete = ((s.str i).complete || (o == .end_ i && (s.str i).hasBuf)) ∧
    ((s'.str i).buf = (s.str i).buf ∨ ∃ n, o = .push i n) ∧
    ((o = .abandon i → (s.str i).complete = true) → (s'.str i).pusher = .inAbandon → (s.str i).pusher = .inAbandon) := by
  cases step_rel _ _ _ hs with
  | all hg => cases hg <;> exact absurd ha Bool.false_ne_true
  | one hl => cases hl <;> first | exact absurd ha Bool.false_ne_true | (cases hi; simp_all [Str.gone]; try (split <;> simp))

/-! ### the invariant -/

/-- `L` (lengths): the contents model agrees with the byte counter of every buffer -/
def L (g : G) : Prop := ∀ j, (g.bufB j).length = (g.s.str j).buf

/-- `JJ srv g i`: what has been written for stream `i`, what its buffer and pending trailers hold, and how far its record has got,
    read off the stream events `stream_send` was called with (`hist`, newest first; `ph` = how far the response has got: 0 nothing,
    1 head, 2 trailers, 3 body ended, 4 stream closed) -/
structure JJ (srv : Headers) (g : G) (i : Nat) : Prop where
  jopen : (g.s.str i).opened = false → g.hist i = []                 -- no stream events before `_create_stream`
  j0 : g.hist i = [] → wireOf i g.out = [] ∧ g.bufB i = []           -- … and before the first of them nothing is written or buffered
  jc : (g.s.str i).complete = true ↔ 3 ≤ ph (g.hist i)               -- `_complete` is set by `EndBody`
  jh : (wireOf i g.out).filter Frame.isHead = headsOf srv (g.hist i)   -- the HEADERS frames are the `Response`s, in order
  jd : dataOf (wireOf i g.out) ++ g.bufB i = bodyOf (g.hist i)       -- DATA written ++ bytes buffered = the `Body` bytes, in order
  jt : (g.s.str i).hasBuf = true → g.trl i = trlOf (g.hist i)        -- `StreamBuffer.trailers` holds the `Trailers` fields, in order
  je : (wireOf i g.out).filter Frame.isEnd = if (g.s.str i).ended then [endFrame (trlOf (g.hist i))] else []   -- one ending frame, with them, once `ended`
  js : Sorted (wireOf i g.out)                                        -- and nothing else, in that order

/-- the runs the statement speaks about: connection open, stream not reset, stream events in `HTTPStream`'s order -/
def Good (g : G) (i : Nat) : Prop := g.s.closed = false ∧ (g.s.str i).libClosed = false ∧ ph (g.hist i) ≠ 9

/-- `J`: `JJ` for as long as the run is `Good` for the stream -/
def J (srv : Headers) (g : G) (i : Nat) : Prop := Good g i → JJ srv g i

/-- `JJ` reads four fields of the stream's record and the stream's share of the four ghost components -/
theorem jj_congr {srv : Headers} {g g' : G} {i : Nat}
    (h1 : (g'.s.str i).opened = (g.s.str i).opened) (h2 : (g'.s.str i).complete = (g.s.str i).complete)
    (h3 : (g'.s.str i).ended = (g.s.str i).ended) (h4 : (g'.s.str i).hasBuf = (g.s.str i).hasBuf)
    (h5 : wireOf i g'.out = wireOf i g.out) (h6 : g'.bufB i = g.bufB i) (h7 : g'.trl i = g.trl i) (h8 : g'.hist i = g.hist i)
    (h : JJ srv g i) : JJ srv g' i := by
  constructor <;> simp only [h1, h2, h3, h4, h5, h6, h7, h8]
  · exact h.jopen
  · exact h.j0
  · exact h.jc
  · exact h.jh
  · exact h.jd
  · exact h.jt
  · exact h.je
  · exact h.js

theorem not_ended_of_phase {srv : Headers} {g : G} {i : Nat} (hI : Inv g.s) (jj : JJ srv g i) (hp : ph (g.hist i) < 3) :
    (g.s.str i).complete = false ∧ (g.s.str i).ended = false := by
  have hc : (g.s.str i).complete = false := Bool.eq_false_iff.2 fun hcc => by have := jj.jc.mp hcc; omega
  exact ⟨hc, Bool.eq_false_iff.2 fun he => by have := (hI.fin i he).1; simp [hc] at this⟩

theorem opened_of_hist {srv : Headers} {g : G} {i : Nat} (jj : JJ srv g i) (hne : g.hist i ≠ []) : (g.s.str i).opened = true :=
  Decidable.by_contra fun h => hne (jj.jopen (Bool.eq_false_iff.2 h))

/-- a response under way on a stream that is not reset still has its buffer -/
theorem has_buf {srv : Headers} {g : G} {i : Nat} (hI : Inv g.s) (jj : JJ srv g i) (hl : (g.s.str i).libClosed = false)
    (hp : ph (g.hist i) < 3) (hne : g.hist i ≠ []) : (g.s.str i).hasBuf = true ∧ (g.s.str i).inTree = true := by
  obtain ⟨hcf, hef⟩ := not_ended_of_phase hI jj hp
  have hb : (g.s.str i).hasBuf = true := by
    cases h : (g.s.str i).hasBuf
    · rcases hI.gone i (opened_of_hist jj hne) h with h1 | h1 <;> simp_all
    · rfl
  exact ⟨hb, hI.tree.1 i hb⟩

/-! ### the wrapped steps -/

/-- the enabled steps of `gstep`, one constructor per kind of wrapped operation -/
inductive GStep (srv : Headers) (g : G) : GOp → G → Prop
  | head (i st : Nat) (hs : Headers) : (g.s.str i).opened = true →
      GStep srv g (.head i st hs)
        { g with out := if !(g.s.str i).libClosed && !(g.s.str i).ended then g.out ++ [(i, .headers (h2Headers st hs srv))] else g.out,
                 hist := updF g.hist i (.head st hs :: g.hist i) }
  | body (i : Nat) (d : Bytes) (s' : St) : (g.s.str i).opened = true → step g.s (.push i d.length) = some s' →
      GStep srv g (.body i d)
        { g with s := s',
                 bufB := if (g.s.str i).inTree && (g.s.str i).hasBuf && !(g.s.str i).complete then updF g.bufB i (g.bufB i ++ d) else g.bufB,
                 hist := updF g.hist i (.body d :: g.hist i) }
  | trailers (i : Nat) (hs : Headers) : (g.s.str i).opened = true →
      GStep srv g (.trailers i hs)
        { g with trl := if (g.s.str i).hasBuf then updF g.trl i (g.trl i ++ hs) else g.trl,
                 hist := updF g.hist i (.trailers hs :: g.hist i) }
  | low (o : Op) (s' : St) : (∀ i n, o ≠ .push i n) → step g.s o = some s' → GStep srv g (.low o) (afterLow g o s')

theorem gstep_rel {srv : Headers} {g g' : G} {o : GOp} (h : gstep srv g o = some g') : GStep srv g o g' := by
  cases o with
  | head i st hs =>
    simp only [gstep] at h; split at h <;> cases h
    exact .head i st hs (by simp_all)
  | trailers i hs =>
    simp only [gstep] at h; split at h <;> cases h
    exact .trailers i hs (by simp_all)
  | body i d =>
    simp only [gstep] at h
    split at h
    · cases h
    · split at h <;> cases h
      exact .body i d _ (by simp_all) ‹_›
  | low o =>
    by_cases hp : ∃ i n, o = .push i n
    · obtain ⟨i, n, rfl⟩ := hp; cases h
    · have hno : ∀ i n, o ≠ .push i n := fun i n e => hp ⟨i, n, e⟩
      have e : gstep srv g (.low o) = (step g.s o).map (afterLow g o) := by
        cases o <;> first | exact absurd rfl (hno _ _) | (simp only [gstep]; cases step g.s _ <;> rfl)
      rw [e] at h
      cases hs : step g.s o with
      | none => rw [hs] at h; cases h
      | some s' => rw [hs] at h; cases h; exact .low o s' hno hs

/-- the `H2Send` component of a wrapped step is unchanged (`head`, `trailers`) or takes the `H2Send` step `proj` names -/
theorem gstep_s {srv : Headers} {g g' : G} {o : GOp} (h : GStep srv g o g') :
    (proj o = [] ∧ g'.s = g.s) ∨ ∃ op, proj o = [op] ∧ (gOk g o → opOk g.s op) ∧ step g.s op = some g'.s := by
  cases h with
  | head | trailers => exact .inl ⟨rfl, rfl⟩
  | body i d s' _ hs => exact .inr ⟨_, rfl, fun _ => trivial, hs⟩
  | low o s' _ hs => exact .inr ⟨_, rfl, id, hs⟩

/-- the wrapped step *is* the `H2Send` step (of the ops `proj` names) on the `H2Send` component -/
theorem gstep_proj (srv : Headers) (g g' : G) (o : GOp) (h : gstep srv g o = some g') : runOk g.s (proj o) = some g'.s := by
  rcases gstep_s (gstep_rel h) with ⟨e1, e2⟩ | ⟨op, e1, _, hs⟩ <;> simp [runOk, *]

theorem inv_gstep (srv : Headers) (g g' : G) (o : GOp) (hI : Inv g.s) (hok : gOk g o) (h : gstep srv g o = some g') : Inv g'.s := by
  rcases gstep_s (gstep_rel h) with ⟨_, e⟩ | ⟨op, _, hop, hs⟩
  · rw [e]; exact hI
  · exact inv_step _ _ _ hI (hop hok) hs

theorem l_gstep (srv : Headers) (g g' : G) (o : GOp) (hL : L g) (h : gstep srv g o = some g') : L g' := by
  intro j
  have hj := hL j
  cases gstep_rel h with
  | head | trailers => exact hj
  | body i d s' _ hs =>
    -- contents and count grow together (`push_buf`)
    rw [push_buf hs j]
    by_cases hji : j = i <;> by_cases hc : ((g.s.str i).inTree && (g.s.str i).hasBuf && !(g.s.str i).complete) = true <;>
      simp [hji, hc, updF, hj] <;> simp [← hji, hj]
  | low o s' hno hs =>
    have := (step_mono hs j).2 hno
    simp only [afterLow, List.length_drop]
    omega

theorem hist_gstep (srv : Headers) (g g' : G) (o : GOp) (i : Nat) (h : gstep srv g o = some g') :
    g'.hist i = (match appOf i o with | some a => [a] | none => []) ++ g.hist i := by
  have hupd : ∀ (j : Nat) (a : AOp), updF g.hist j (a :: g.hist j) i = (if j = i then [a] else []) ++ g.hist i := by
    intro j a; by_cases hji : j = i
    · subst hji; simp
    · simp [updF, hji, Ne.symm hji]
  cases gstep_rel h with
  | head j | body j | trailers j => simp only [appOf, hupd]; split <;> rfl
  | low o s' hno hs => cases o <;> simp only [afterLow, appOf, hupd, List.nil_append] <;> split <;> rfl

theorem good_mono (srv : Headers) (g g' : G) (o : GOp) (i : Nat) (h : gstep srv g o = some g') (hg : Good g' i) : Good g i := by
  obtain ⟨h1, h2, h3⟩ := hg
  have hs : g.s.closed = false ∧ (g.s.str i).libClosed = false := by
    rcases gstep_s (gstep_rel h) with ⟨_, e⟩ | ⟨op, _, _, hs⟩
    · rw [← e]; exact ⟨h1, h2⟩
    · exact ⟨Bool.eq_false_iff.2 fun hc => by simp [closed_mono _ _ _ hs hc] at h1,
        Bool.eq_false_iff.2 fun hc => by simp [(step_mono hs i).1 hc] at h2⟩
  refine ⟨hs.1, hs.2, fun h9 => h3 ?_⟩
  rw [hist_gstep srv g g' o i h]
  cases appOf i o with
  | none => simpa using h9
  | some a => simp [ph, h9, tr_nine]

/-! ### a stream event of stream `i` -/

/-- a stream event `a` reaches `stream_send` for stream `i`: its head frame (if it is a head) is written, its bytes go to the back of
    the buffer, its trailers are noted; of the four fields `JJ` reads of the record only `complete` may change -/
theorem jj_event {srv : Headers} {g g' : G} {i : Nat} (a : AOp) (jj : JJ srv g i)
    (ho : (g'.s.str i).opened = true) (hc : (g'.s.str i).complete = true ↔ 3 ≤ ph (a :: g.hist i))
    (he : (g'.s.str i).ended = (g.s.str i).ended) (hE : (g.s.str i).ended = true → trlOf [a] = [])
    (hb : (g'.s.str i).hasBuf = (g.s.str i).hasBuf)
    (hw : wireOf i g'.out = wireOf i g.out ++ headsOf srv [a]) (hw0 : headsOf srv [a] ≠ [] → wireOf i g.out = [])
    (hB : g'.bufB i = g.bufB i ++ bodyOf [a]) (hT : (g.s.str i).hasBuf = true → g'.trl i = g.trl i ++ trlOf [a])
    (hh : g'.hist i = a :: g.hist i) : JJ srv g' i := by
  have hk : ∀ f ∈ headsOf srv [a], f.isHead = true ∧ f.isEnd = false := by
    cases a <;> simp [headsOf, Frame.isHead, Frame.isEnd]
  have hd : dataOf (headsOf srv [a]) = [] := by cases a <;> rfl
  constructor
  · intro h; rw [ho] at h; cases h
  · intro h; rw [hh] at h; cases h
  · rw [hh]; exact hc
  · rw [hw, hh, List.filter_append, jj.jh, headsOf_cons srv a (g.hist i), List.filter_eq_self.2 fun f hf => (hk f hf).1]
  · rw [hw, hB, hh, dataOf_append, hd, List.append_nil, ← List.append_assoc, jj.jd, bodyOf_cons a (g.hist i)]
  · intro hb'; rw [hb] at hb'; rw [hT hb', hh, jj.jt hb', trlOf_cons a (g.hist i)]
  · rw [hw, hh, he, List.filter_append, jj.je, List.filter_eq_nil_iff.2 fun f hf => by simp [(hk f hf).2], List.append_nil, trlOf_cons a (g.hist i)]
    split
    · next hend => rw [hE hend, List.append_nil]
    · rfl
  · rw [hw]
    by_cases h0 : headsOf srv [a] = []
    · rw [h0, List.append_nil]; exact jj.js
    · rw [hw0 h0]
      cases a <;> first | exact absurd rfl h0 | simp [Sorted, headsOf, List.filter_cons, Frame.isHead, Frame.isData, Frame.isEnd]

/-! ### a step of the send path -/

theorem wire_afterLow (g : G) (o : Op) (s' : St) (i : Nat) :
    wireOf i (afterLow g o s').out = wireOf i g.out ++ (if opSid o = some i then emitF g s' i else []) := by
  simp only [afterLow, wireOf_append]
  cases hsid : opSid o with
  | none => simp [wireOf]
  | some j =>
    simp only [wireOf_tagged]
    by_cases hji : j = i
    · subst hji; simp
    · simp [hji]

theorem emitF_nil (g : G) (s' : St) (i : Nat) (h1 : (s'.str i).sent = (g.s.str i).sent) (h2 : (s'.str i).ended = (g.s.str i).ended)
    (h3 : (s'.str i).pusher = .inAbandon → (g.s.str i).pusher = .inAbandon) : emitF g s' i = [] := by
  simp only [emitF, h1, h2, Nat.lt_irrefl, if_false, List.nil_append]
  cases he : (g.s.str i).ended <;> simp
  all_goals (intro h4; exact h3 h4)

/-- a step of the send path that changes nothing that matters for stream `i` keeps its invariant -/
theorem jj_same {srv : Headers} {g : G} {o : Op} {s' : St} {i : Nat} (jj : JJ srv g i) (hsame : Same (g.s.str i) (s'.str i))
    (hh : (afterLow g o s').hist i = g.hist i) : JJ srv (afterLow g o s') i := by
  obtain ⟨hop, hcompl, hend, hbuf, hb, hsent, -, hpush⟩ := hsame
  refine jj_congr hop hcompl hend hbuf ?_ ?_ ?_ hh jj
  · rw [wire_afterLow, emitF_nil g s' i hsent hend hpush]; simp
  · simp [afterLow, hb]
  · simp [afterLow, hop]

/-- `stream_send(EndBody)` / `stream_send(StreamClosed)` for stream `i`: the event `a` is noted in the history; nothing is written,
    nothing leaves the buffer -/
theorem jj_app {srv : Headers} {g : G} {o : Op} {s' : St} {i : Nat} (a : AOp) (jj : JJ srv g i) (hs : step g.s o = some s')
    (ha : isAppOp o = true) (hi : opSid o = some i) (hnp : ∀ n, o ≠ .push i n)
    (hh : (afterLow g o s').hist i = a :: g.hist i) (hne : g.hist i ≠ [])
    (hq : headsOf srv [a] = [] ∧ bodyOf [a] = [] ∧ trlOf [a] = []) (hk : o = .abandon i → (g.s.str i).complete = true)
    (hc : ((g.s.str i).complete || (o == .end_ i && (g.s.str i).hasBuf)) = true ↔ 3 ≤ ph (a :: g.hist i)) :
    JJ srv (afterLow g o s') i := by
  obtain ⟨f1, f2, f3, f4, f5, f6, f7⟩ := app_fields hs ha hi
  refine jj_event a jj (f1.trans (opened_of_hist jj hne)) (by rw [show (afterLow g o s').s = s' from rfl, f5]; exact hc) f2
    (fun _ => hq.2.2) f3 ?_ (fun h => absurd hq.1 h) ?_ (fun _ => ?_) hh
  · rw [wire_afterLow, emitF_nil g s' i f4 f2 (f7 hk), hq.1]; simp
  · simp [afterLow, f6.resolve_right fun ⟨n, e⟩ => hnp n e, hq.2.1]
  · simp [afterLow, f1, hq.2.2]

theorem hist_afterLow (g : G) (o : Op) (s' : St) (i : Nat) (hno : isAppOp o = false) : (afterLow g o s').hist i = g.hist i := by
  cases o <;> simp [isAppOp] at hno <;> rfl

/-- a step of the send path that is not a stream event, while the connection stays open and the stream is not reset -/
theorem jj_low {srv : Headers} {g : G} {o : Op} {s' : St} {i : Nat} (hI : Inv g.s) (hLi : (g.bufB i).length = (g.s.str i).buf)
    (jj : JJ srv g i) (hno : isAppOp o = false) (hs : step g.s o = some s') (hc' : s'.closed = false)
    (hl' : (s'.str i).libClosed = false) : JJ srv (afterLow g o s') i := by
  have hhist := hist_afterLow g o s' i hno
  have hss : (afterLow g o s').s = s' := rfl
  rcases step_kind _ _ _ hI hs hno i with hk | hk | hk | ⟨hsid, hk | hk | hk | hk⟩
  · simp [hc'] at hk
  · simp [hl'] at hk
  · exact jj_same jj hk hhist
  · -- the stream is opened: nothing was written before, nothing is written now
    obtain ⟨hop, hop', -, hcompl', hend', -, hsent', -, hpush'⟩ := hk
    have hh0 := jj.jopen hop
    obtain ⟨hw0, hb0⟩ := jj.j0 hh0
    have hw : wireOf i (afterLow g o s').out = [] := by
      rw [wire_afterLow, hw0, if_pos hsid]
      simp [emitF, hsent', hend', hpush']
    have hbb : (afterLow g o s').bufB i = [] := by simp [afterLow, hb0]
    have htt : (afterLow g o s').trl i = [] := by simp [afterLow, hop, hop']
    constructor <;> simp [hss, hw, hbb, htt, hhist, hh0, hop', hcompl', hend', ph, headsOf, dataOf, bodyOf, trlOf, sorted_nil]
  · -- a DATA frame: the first `sent' − sent` buffered bytes
    obtain ⟨hlt, hle, hbuf', hhas, -, hend', hcompl', hop', -, hpush'⟩ := hk
    have hbpos : 0 < (g.s.str i).buf := by omega
    have hef : (g.s.str i).ended = false := by
      cases he : (g.s.str i).ended
      · rfl
      · have := (hI.fin i he).2.1; omega
    have hw : wireOf i (afterLow g o s').out = wireOf i g.out ++ [Frame.data ((g.bufB i).take ((s'.str i).sent - (g.s.str i).sent))] := by
      rw [wire_afterLow, if_pos hsid]
      simp [emitF, hlt, hend', hpush', hef]
    have hbb : (afterLow g o s').bufB i = (g.bufB i).drop ((s'.str i).sent - (g.s.str i).sent) := by
      simp only [afterLow, hbuf']
      congr 1
      omega
    have htt : (afterLow g o s').trl i = g.trl i := by simp [afterLow, hop']
    have hend0 : (wireOf i g.out).filter Frame.isEnd = [] := by have := jj.je; simpa [hef] using this
    constructor
    · rw [hss, hop', hhist]; exact jj.jopen
    · rw [hhist]; intro h0
      have := (jj.j0 h0).2
      rw [this] at hLi; simp at hLi; omega
    · rw [hss, hhist, hcompl']; exact jj.jc
    · rw [hw, hhist]; simp [List.filter_append, Frame.isHead, jj.jh]
    · rw [hw, hbb, hhist, ← jj.jd]; simp [dataOf, List.append_assoc]
    · rw [hss, htt, hhist]; intro _; exact jj.jt hhas
    · rw [hw, hss, hhist, hend', hef]; simp [List.filter_append, Frame.isEnd, hend0]
    · rw [hw]; exact sorted_snoc_data _ _ jj.js hend0
  · -- the end of the stream: the frame `_end_stream` writes, with the pending trailers
    obtain ⟨hhas, -, hend, hend', hcompl, hcompl', hb0, hb0', hsent', hop', -, hpush'⟩ := hk
    have hw : wireOf i (afterLow g o s').out = wireOf i g.out ++ [endFrame (trlOf (g.hist i))] := by
      rw [wire_afterLow, if_pos hsid]
      simp [emitF, hsent', hend, hend', hpush', jj.jt hhas]
    have hbb : (afterLow g o s').bufB i = g.bufB i := by simp [afterLow, hb0, hb0']
    have htt : (afterLow g o s').trl i = g.trl i := by simp [afterLow, hop']
    have hend0 : (wireOf i g.out).filter Frame.isEnd = [] := by have := jj.je; simpa [hend] using this
    obtain ⟨e1, e2, e3, e4⟩ := endFrame_kind (trlOf (g.hist i))
    constructor
    · rw [hss, hop', hhist]; exact jj.jopen
    · rw [hhist]; intro h0
      have := jj.jc.mp hcompl
      rw [h0] at this; simp [ph] at this
    · rw [hss, hhist]; exact ⟨fun _ => jj.jc.mp hcompl, fun _ => hcompl'⟩
    · rw [hw, hhist]; simp [List.filter_append, e2, jj.jh]
    · rw [hw, hbb, hhist, ← jj.jd]; simp [e4]
    · rw [hss, htt, hhist]; intro _; exact jj.jt hhas
    · rw [hw, hss, hhist, hend']; simp [List.filter_append, e1, hend0]
    · rw [hw]; exact sorted_snoc_end _ _ jj.js e1 e2 e3
  · -- the buffer of the ended stream is forgotten
    obtain ⟨hhas', hb0', hb0, hsent', hend', hop', -, hpush', hwas, hnot⟩ := hk
    have hw : wireOf i (afterLow g o s').out = wireOf i g.out := by
      rw [wire_afterLow, emitF_nil g s' i hsent' hend' (by rw [hpush']; exact id)]; simp
    have hbb : (afterLow g o s').bufB i = g.bufB i := by simp [afterLow, hb0', hb0]
    have htt : (afterLow g o s').trl i = g.trl i := by simp [afterLow, hop']
    constructor
    · rw [hss, hop', hhist]; exact jj.jopen
    · rw [hhist, hw, hbb]; exact jj.j0
    · rw [hss, hhist]
      cases hb : (g.s.str i).hasBuf
      · rw [hnot hb]; exact jj.jc
      · obtain ⟨he, hc2⟩ := hwas hb
        rw [hc2]
        have := jj.jc.mp (hI.fin i he).1
        simp [this]
    · rw [hw, hhist]; exact jj.jh
    · rw [hw, hbb, hhist]; exact jj.jd
    · rw [hss, hhas']; intro h2; cases h2
    · rw [hw, hss, hhist, hend']; exact jj.je
    · rw [hw]; exact jj.js

/-- **one step keeps the per-stream invariant**, whatever the step is -/
theorem jj_step (srv : Headers) (g g' : G) (o : GOp) (i : Nat) (hI : Inv g.s) (hL : L g) (hJ : J srv g i)
    (h : gstep srv g o = some g') : J srv g' i := by
  intro hgood'
  have ⟨hc, hl, hp⟩ := good_mono srv g g' o i h hgood'
  have jj := hJ ⟨hc, hl, hp⟩
  obtain ⟨hc', hl', hp'⟩ := hgood'
  -- an event or op of another stream `j` leaves alone what `JJ` reads for stream `i` (`C09.opStream` is the same table as
  -- `opSid`: for a given op both evaluate, hence the `rfl`s below)
  have other : ∀ {j : Nat} {o : Op} {s' : St}, opStream o = some j → j ≠ i → step g.s o = some s' → Same (g.s.str i) (s'.str i) :=
    fun ho hji hs => by rw [stream_op_frame _ _ _ _ i ho (Ne.symm hji) hs]; exact same_refl _
  cases gstep_rel h with
  | head j st hs ho =>
    by_cases hji : j = i
    · -- in `HTTPStream`'s order the head is the stream's first event, so its HEADERS frame is the first frame written
      subst hji
      have hh0 : g.hist j = [] := (ph_zero _).mp (ph_cons (by simpa using hp'))
      obtain ⟨hcf, hef⟩ := not_ended_of_phase hI jj (by rw [hh0]; decide)
      refine jj_event (.head st hs) jj ho (by simp [hcf, hh0, ph, tr]) rfl (fun h => by simp [hef] at h) rfl ?_
        (fun _ => (jj.j0 hh0).1) (List.append_nil _).symm (fun _ => (List.append_nil _).symm) (updF_same ..)
      simp [hl, hef, wireOf, headsOf]
    · exact jj_congr (g := g) rfl rfl rfl rfl (by dsimp only; split <;> simp [wireOf, hji]) rfl rfl
        (updF_other _ _ _ _ (Ne.symm hji)) jj
  | trailers j hs ho =>
    by_cases hji : j = i
    · subst hji
      have hp12 := ph_cons (a := .trailers hs) (by simpa using hp')
      obtain ⟨hcf, hef⟩ := not_ended_of_phase hI jj (by omega)
      exact jj_event (.trailers hs) jj ho (by rcases hp12 with h | h <;> simp [hcf, ph, tr, h]) rfl (fun h => by simp [hef] at h) rfl
        (List.append_nil _).symm (fun h => absurd rfl h) (List.append_nil _).symm (fun hb => by simp [hb, trlOf]) (updF_same ..)
    · exact jj_congr (g := g) rfl rfl rfl rfl rfl rfl (by dsimp only; split <;> simp [updF, Ne.symm hji])
        (updF_other _ _ _ _ (Ne.symm hji)) jj
  | body j d s' ho hs =>
    by_cases hji : j = i
    · subst hji
      have hp1 : ph (g.hist j) = 1 := ph_cons (a := .body d) (by simpa using hp')
      have hne : g.hist j ≠ [] := fun h0 => by rw [h0] at hp1; cases hp1
      obtain ⟨hcf, hef⟩ := not_ended_of_phase hI jj (by omega)
      obtain ⟨hb, ht⟩ := has_buf hI jj hl (by omega) hne
      obtain ⟨f1, f2, f3, f4, f5, _⟩ := app_fields hs rfl rfl
      exact jj_event (.body d) jj (f1.trans ho) (by simp [f5, hcf, ph, tr, hp1]) f2 (fun h => by simp [hef] at h) f3
        (List.append_nil _).symm (fun h => absurd rfl h) (by simp [ht, hb, hcf, bodyOf]) (fun _ => (List.append_nil _).symm) (updF_same ..)
    · obtain ⟨e1, e2, e3, e4, _⟩ := other rfl hji hs
      exact jj_congr (g := g) e1 e2 e3 e4 rfl (by dsimp only; split <;> simp [updF, Ne.symm hji]) rfl (updF_other _ _ _ _ (Ne.symm hji)) jj
  | low o s' hno hs =>
    cases o
    case push => exact absurd rfl (hno _ _)
    case end_ j =>
      by_cases hji : j = i
      · subst hji
        have hh : (afterLow g (.end_ j) s').hist j = .end_ :: g.hist j := by simp [afterLow]
        rw [hh] at hp'
        have hp12 := ph_cons hp'
        have hne : g.hist j ≠ [] := fun h0 => by rw [h0] at hp12; simp [ph] at hp12
        obtain ⟨hb, _⟩ := has_buf hI jj hl (by omega) hne
        exact jj_app .end_ jj hs rfl rfl nofun hh hne ⟨rfl, rfl, rfl⟩ nofun (by rcases hp12 with h | h <;> simp [hb, ph, tr, h])
      · exact jj_same jj (other rfl hji hs) (by simp [afterLow, updF, Ne.symm hji])
    case abandon j =>
      by_cases hji : j = i
      · subst hji
        have hh : (afterLow g (.abandon j) s').hist j = .closed :: g.hist j := by simp [afterLow]
        rw [hh] at hp'
        have hp3 : ph (g.hist j) = 3 := ph_cons hp'
        have hcpl : (g.s.str j).complete = true := jj.jc.mpr (by omega)
        exact jj_app .closed jj hs rfl rfl nofun hh (fun h0 => by rw [h0] at hp3; cases hp3) ⟨rfl, rfl, rfl⟩ (fun _ => hcpl)
          (by simp [hcpl, ph, tr, hp3])
      · exact jj_same jj (other rfl hji hs) (by simp [afterLow, updF, Ne.symm hji])
    all_goals exact jj_low hI (hL i) jj rfl hs hc' hl'

/-- `P`: everything that holds of every reachable wrapped state -/
structure P (srv : Headers) (g : G) : Prop where
  inv : Inv g.s
  len : L g
  str : ∀ i, J srv g i

theorem p_init (srv : Headers) (cw : Int) (mf : Nat) (hmf : 0 < mf) : P srv (ginit cw mf) := by
  refine ⟨inv_init cw mf hmf, ?_, ?_⟩
  · intro j; simp [ginit, init]
  · intro i _
    constructor <;> simp [ginit, init, wireOf, ph, headsOf, dataOf, bodyOf, trlOf, sorted_nil]

theorem p_step (srv : Headers) (g g' : G) (o : GOp) (hp : P srv g) (hok : gOk g o) (h : gstep srv g o = some g') : P srv g' :=
  ⟨inv_gstep srv g g' o hp.inv hok h, l_gstep srv g g' o hp.len h, fun i => jj_step srv g g' o i hp.inv hp.len (hp.str i) h⟩

/-- induction over an accepted wrapped run: its first step, then the rest -/
theorem grun_rec {srv : Headers} {motive : G → List GOp → G → Prop} (nil : ∀ g, motive g [] g)
    (cons : ∀ g o g1 os g', gstep srv g o = some g1 → motive g1 os g' → motive g (o :: os) g') :
    ∀ (ops : List GOp) (g g' : G), grun srv g ops = some g' → motive g ops g' := by
  intro ops
  induction ops with
  | nil => intro g g' hr; cases hr; exact nil g
  | cons o os ih =>
    intro g g' hr
    simp only [grun] at hr
    split at hr
    · cases hr
    · next g1 hg1 => exact cons g o g1 os g' hg1 (ih g1 g' hr)

theorem p_run (srv : Headers) (ops : List GOp) : ∀ (g g' : G), P srv g → gAllOk srv g ops → grun srv g ops = some g' → P srv g' :=
  fun g g' hp hok hr =>
    grun_rec (motive := fun g ops g' => P srv g → gAllOk srv g ops → P srv g') (fun _ hp _ => hp)
      (fun g o g1 os g' hg1 ih hp hok => by
        simp only [gAllOk, hg1] at hok
        exact ih (p_step srv g g1 o hp hok.1 hg1) hok.2) ops g g' hr hp hok

/-- **the wrapped run is an `H2Send` run** (of the ops `proj` names) that meets `opOk`: every theorem about the reachable states
    of `H2Send` (C08, C09) holds of the `H2Send` component of every reachable wrapped state -/
theorem run_proj (srv : Headers) (ops : List GOp) : ∀ (g g' : G), gAllOk srv g ops → grun srv g ops = some g' →
    runOk g.s (ops.flatMap proj) = some g'.s ∧ allOk g.s (ops.flatMap proj) :=
  fun g g' hok hr =>
    grun_rec (motive := fun g ops g' => gAllOk srv g ops → runOk g.s (ops.flatMap proj) = some g'.s ∧ allOk g.s (ops.flatMap proj))
      (fun _ _ => by simp [runOk, allQ])
      (fun g o g1 os g' hg1 ih hok => by
        simp only [gAllOk, hg1] at hok
        obtain ⟨ih1, ih2⟩ := ih hok.2
        rcases gstep_s (gstep_rel hg1) with ⟨e1, e2⟩ | ⟨op, e1, hop, hs⟩
        · simp only [List.flatMap_cons, e1, List.nil_append]; rw [← e2]; exact ⟨ih1, ih2⟩
        · simp only [List.flatMap_cons, e1, List.singleton_append, runOk, allQ, hs]; exact ⟨ih1, hop hok.1, ih2⟩) ops g g' hr hok

theorem run_reachable (srv : Headers) (cw : Int) (mf : Nat) (hmf : 0 < mf) (ops : List GOp) (g : G)
    (hok : gAllOk srv (ginit cw mf) ops) (hr : grun srv (ginit cw mf) ops = some g) : Reachable g.s := by
  obtain ⟨h1, h2⟩ := run_proj srv ops _ _ hok hr
  exact HC.Props.C09.reachable_of_run cw mf _ g.s hmf h2 h1

/-- the history of a stream is the stream events of the schedule, newest first -/
theorem run_hist (srv : Headers) (i : Nat) (ops : List GOp) : ∀ (g g' : G), grun srv g ops = some g' →
    g'.hist i = (appOps i ops).reverse ++ g.hist i :=
  grun_rec (motive := fun g ops g' => g'.hist i = (appOps i ops).reverse ++ g.hist i) (fun _ => by simp [appOps])
    (fun g o g1 os g' hg1 ih => by
      rw [ih, hist_gstep srv g g1 o i hg1]
      simp only [appOps, List.filterMap_cons]
      cases appOf i o <;> simp) ops

/-! ### reading the history of a whole response -/

/-- the stream events of one whole response, in order: head, body chunks, trailers, end of body, (stream closed) -/
def script (status : Nat) (vh : Headers) (ds : List Bytes) (ts : List Headers) (closed : Bool) : List AOp :=
  [.head status vh] ++ ds.map .body ++ ts.map .trailers ++ [.end_] ++ (if closed then [.closed] else [])

theorem ph_bodies (l : List Bytes) (r : List AOp) (h : ph r = 1) : ph ((l.map AOp.body) ++ r) = 1 := by
  induction l with
  | nil => simpa using h
  | cons d t ih => simp [ph, tr, ih]

theorem ph_trailers (l : List Headers) (r : List AOp) (h : ph r = 1 ∨ ph r = 2) : ph ((l.map AOp.trailers) ++ r) = 1 ∨ ph ((l.map AOp.trailers) ++ r) = 2 := by
  induction l with
  | nil => simpa using h
  | cons d t ih => simp [ph, tr, ih]

theorem script_read (srv : Headers) (status : Nat) (vh : Headers) (ds : List Bytes) (ts : List Headers) (closed : Bool) :
    3 ≤ ph (script status vh ds ts closed).reverse ∧ ph (script status vh ds ts closed).reverse ≠ 9 ∧
    bodyOf (script status vh ds ts closed).reverse = ds.flatten ∧ trlOf (script status vh ds ts closed).reverse = ts.flatten ∧
    headsOf srv (script status vh ds ts closed).reverse = [.headers (h2Headers status vh srv)] := by
  have h1 : ph ((ds.reverse.map AOp.body) ++ [AOp.head status vh]) = 1 := ph_bodies _ _ (by simp [ph, tr])
  have h2 := ph_trailers ts.reverse _ (Or.inl h1)
  simp only [List.map_reverse] at h2
  rw [bodyOf_reverse, trlOf_reverse, headsOf_reverse]
  refine ⟨?_, ?_, ?_, ?_, ?_⟩ <;> cases closed <;> simp [script, ph, tr, h2, List.flatMap_map, bodyOf, trlOf, headsOf]

end HC.Proto.H2Wire
