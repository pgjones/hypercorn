import HC.Proto.H11Moves
/-!
# H11Dead — once h11 can accept no further request, `H11Protocol` starts no further application instance

`Gone n st`: the library machine is `Dead` and `n` application instances have been started.  Every op of the protocol
model preserves it (library events, sends of any stream object, `Closed`, termination: case analysis on the moves of an
op, `H11.step_moves`), and a `Request` event is not enabled.  Used by C18 for "rejected without reaching the application" and "no later request is served".
-/
namespace HC.Proto.H11
open HC HC.Stream HC.Lib

def Gone (n : Nat) (st : St) : Prop := H11M.Dead st.lib ∧ st.spawns = n

theorem libSend_spawns (st : St) (e : LibSend) : (libSend st e).1.spawns = st.spawns ∧ (libSend st e).1.cur = st.cur := by
  rw [libSend_shape]; exact ⟨rfl, rfl⟩

theorem Sends.gone {n : Nat} {a b : St} (h : Sends a b) (hg : Gone n a) : Gone n b := by
  unfold Gone at *
  induction h with
  | frame h1 _ _ _ h5 _ => rw [h1, h5]; exact hg
  | trans _ _ ih1 ih2 => exact ih2 (ih1 hg)
  | call h => exact ⟨h.dead hg.1, hg.2⟩
  | unsetCur => exact hg
  | recycle _ _ h => exact absurd hg.1 (H11M.startNextCycle_not_dead _ _ h)
  | setClosed => exact hg

/-- every move keeps `Gone`; the one that could start an instance, `recvRequest`, needs h11's client side in IDLE -/
theorem Moves.gone {n : Nat} {a b : St} (h : Moves a b) (hg : Gone n a) : Gone n b := by
  induction h with
  | sends h => exact h.gone hg
  | trans _ _ ih1 ih2 => exact ih2 (ih1 hg)
  | recvError a => exact ⟨H11M.recvError_dead _, hg.2⟩
  | recvClosed h => exact ⟨H11M.recvClosed_dead _ _ h hg.1, hg.2⟩
  | recvData h => exact ⟨H11M.recvData_dead _ _ h hg.1, hg.2⟩
  | recvEom _ h => exact ⟨H11M.recvEom_dead _ _ h hg.1, hg.2⟩
  | recvRequest h _ _ _ => exact absurd hg.1 (H11M.recvRequest_not_dead _ _ _ h)

/-- a `Request` event is never enabled in a `Gone` state -/
theorem no_request_when_gone (n : Nat) (cfg : Cfg) (st : St) (r : ReqEv) (h : Gone n st) : onLibEv cfg st (.request r) = none := by
  cases hres : onLibEv cfg st (.request r) with
  | none => rfl
  | some res =>
    obtain ⟨_, hl, _⟩ := onLibEvBody_request (onLibEv_eq hres)
    exact absurd ((loopTop_sends cfg st).gone h).1 (H11M.recvRequest_not_dead _ _ _ hl)

/-- every op preserves `Gone` -/
theorem step_gone (n : Nat) (cfg : Cfg) (token : Bytes → Bytes) (ext : Option Bytes) (st st' : St) (op : Op) (outs : List Out)
    (err : Option PyErr) (h : Gone n st) (hs : step cfg token ext st op = some (st', outs, err)) : Gone n st' :=
  (step_moves cfg token ext st st' op outs err hs).gone h

/-- a response head that carries the line `connection: close` is one h11 reads as announcing close -/
theorem connClose_of_mem (status : Nat) (hs : Headers) (h : ("connection".b, "close".b) ∈ hs) :
    (respInfo status hs).connClose = true :=
  List.any_eq_true.mpr ⟨_, h, by decide +kernel⟩

end HC.Proto.H11
