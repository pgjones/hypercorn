import HC.Proto.Wrapper
import HC.Lib.H2Settings
/-!
# The read path of `ProtocolWrapper` + `H11Protocol` up to the protocol switch, over an abstract incremental head parser

`TCPServer._read_data` hands every read to `ProtocolWrapper.handle(RawData(data))`.  While the wrapper's protocol is the
`H11Protocol` made in `__init__`, that is `h11.Connection.receive_data(data)` followed by `next_event()`:

* `NEED_DATA` (no complete request head in h11's buffer): the read is over — unless the buffer has outgrown
  `h11_max_incomplete_size`, then h11 raises `RemoteProtocolError` (431);
* `RemoteProtocolError`: 400 + `Closed`;
* a `Request`: `_check_protocol` decides (h2c: 101, `H2CProtocolRequiredError(trailing_data, request)`; preface:
  `H2ProtocolAssumedError(preface line + trailing_data)`; otherwise `_create_stream`), and the wrapper swaps in an
  `H2Protocol`, calls `initiate` and hands it `error.data`.

h11's byte parser is **not** modelled: it is a parameter (`HeadParser`) with the four properties the argument needs, recorded as
structure fields (hypotheses of every theorem that takes a `HeadParser`, not axioms): nothing received is `NEED_DATA`, a head
lies inside the buffer, and the answer for a buffer is *prefix stable* (a complete head, and a malformed one, stay what they
are when more bytes arrive).  `harness/gen/C13.py` samples exactly these fields against the installed h11 on every prefix of
every generated opening (`parser_assumption`).
-/
namespace HC.Proto.Wrapper
open HC HC.Proto.H11

/-- what `h11.Connection(SERVER)` says about a receive buffer holding `buf` (fresh connection) -/
inductive Parse where
  | need                          -- `NEED_DATA`
  | head (r : ReqEv) (n : Nat)    -- a `Request`; the head is the first `n` bytes, `trailing_data[0]` = the rest
  | bad                           -- `RemoteProtocolError`
deriving Repr, DecidableEq

/-- the assumed shape of h11's head parser -/
structure HeadParser where
  parse : Bytes → Parse
  /-- nothing received: `NEED_DATA` -/
  nil_need : parse [] = .need
  /-- the head lies inside the buffer -/
  head_le : ∀ {buf : Bytes} {r : ReqEv} {n : Nat}, parse buf = .head r n → n ≤ buf.length
  /-- once a complete head is in the buffer, more bytes change neither the request nor where it ends -/
  head_stable : ∀ {buf : Bytes} {r : ReqEv} {n : Nat} (more : Bytes), parse buf = .head r n → parse (buf ++ more) = .head r n
  /-- a malformed head stays malformed -/
  bad_stable : ∀ {buf : Bytes} (more : Bytes), parse buf = .bad → parse (buf ++ more) = .bad

/-- which protocol the connection speaks, and on account of what -/
inductive Sel where
  | h11wait                               -- `H11Protocol`, no complete request head yet
  | h11bad                                -- the head was malformed / too long: error response + `Closed`
  | h11 (r : ReqEv) (ws : Bool)           -- stays HTTP/1.x; `ws`: `_create_stream` made a `WSStream`
  | alpn                                  -- `H2Protocol` constructed in `ProtocolWrapper.__init__`
  | prior (r : ReqEv)                     -- switched on the cleartext preface
  | h2c (r : ReqEv) (served : Bool)       -- 101 written, switched; `served = false`: h2 refused the HTTP2-Settings
                                          --   payload → GOAWAY(PROTOCOL_ERROR) + `Closed`, no stream 1
deriving Repr, DecidableEq

/-- an `H11Protocol` was constructed on this connection -/
def Sel.h11Constructed : Sel → Bool
  | .alpn => false
  | _ => true

/-- the `101 Switching Protocols` has been written -/
def Sel.wrote101 : Sel → Bool
  | .h2c _ _ => true
  | _ => false

/-- how `H2Protocol.initiate` was entered -/
def Sel.initPath : Sel → Option InitPath
  | .alpn => some (initiatePath none)
  | .prior r => some (initiatePath (wrapperSettings .prior r))
  | .h2c r _ => some (initiatePath (wrapperSettings .h2c r))
  | _ => none

/-- the header list of the synthesised stream 1 -/
def Sel.stream1 : Sel → Option Headers
  | .h2c r true => some (h2cHeaders r)
  | _ => none

/-- the connection was ended with GOAWAY right after the 101 -/
def Sel.refused : Sel → Bool
  | .h2c _ false => true
  | _ => false

structure RS where
  sel : Sel
  w : W
  cut : Nat := 0                         -- where the h11 parser stopped (length of the HTTP/1 head)
deriving Repr, DecidableEq

def RS.init (alpn : Option String) : RS :=
  match selectByAlpn alpn with
  | .h2 => { sel := .alpn, w := { proto := .h2 } }
  | .h11 => { sel := .h11wait, w := { proto := .h11 } }

/-- one read.  `limit` = `config.h11_max_incomplete_size` -/
def RS.step (P : HeadParser) (limit : Nat) (s : RS) (d : Bytes) : RS :=
  match s.sel with
  | .h11wait =>
    let buf := s.w.h11Input ++ d
    match P.parse buf with
    | .need => if limit < buf.length then { s with sel := .h11bad, w := s.w.read d none } else { s with w := s.w.read d none }
    | .bad => { s with sel := .h11bad, w := s.w.read d none }
    | .head r n =>
      match checkProtocol r with
      | .h2c => { sel := .h2c r (HC.Lib.H2Settings.accepts (h2cSettings r)), w := s.w.read d (some (.h2c, buf.drop n)), cut := n }
      | .prior => { sel := .prior r, w := s.w.read d (some (.prior, buf.drop n)), cut := n }
      | .none => { sel := .h11 r (isWebsocketRequest r), w := s.w.read d none, cut := n }
  | _ => { s with w := s.w.read d none }

def run (P : HeadParser) (limit : Nat) (alpn : Option String) (rs : List Bytes) : RS :=
  rs.foldl (RS.step P limit) (RS.init alpn)

/-- what the outcome is judged by: the selection (with the request it was made on), the protocol object in place, the bytes
    the HTTP/1 parser consumed (everything, as long as the connection is HTTP/1; the head, after a switch) and the bytes
    handed to the HTTP/2 connection -/
structure View where
  sel : Sel
  proto : Proto
  h11Consumed : Bytes
  h2Input : Bytes
deriving Repr, DecidableEq

def RS.view (s : RS) : View :=
  { sel := s.sel, proto := s.w.proto,
    h11Consumed := match s.sel with
      | .prior _ => s.w.h11Input.take s.cut
      | .h2c _ _ => s.w.h11Input.take s.cut
      | _ => s.w.h11Input,
    h2Input := s.w.h2Input }

/-- **the specification**: the outcome as a function of the client's byte string alone -/
def outcome (P : HeadParser) (alpn : Option String) (total : Bytes) : View :=
  match selectByAlpn alpn with
  | .h2 => { sel := .alpn, proto := .h2, h11Consumed := [], h2Input := total }
  | .h11 =>
    match P.parse total with
    | .need => { sel := .h11wait, proto := .h11, h11Consumed := total, h2Input := [] }
    | .bad => { sel := .h11bad, proto := .h11, h11Consumed := total, h2Input := [] }
    | .head r n =>
      match checkProtocol r with
      | .none => { sel := .h11 r (isWebsocketRequest r), proto := .h11, h11Consumed := total, h2Input := [] }
      | .prior => { sel := .prior r, proto := .h2, h11Consumed := total.take n, h2Input := prefaceLine ++ total.drop n }
      | .h2c => { sel := .h2c r (HC.Lib.H2Settings.accepts (h2cSettings r)), proto := .h2, h11Consumed := total.take n,
                  h2Input := total.drop n }

/-- no incomplete head among the prefixes of `total` is longer than h11 tolerates (`h11_max_incomplete_size`) -/
def WithinLimit (P : HeadParser) (limit : Nat) (total : Bytes) : Prop :=
  ∀ p : Bytes, p <+: total → P.parse p = .need → p.length ≤ limit

theorem WithinLimit.prefix {P : HeadParser} {limit : Nat} {a b : Bytes} (h : WithinLimit P limit (a ++ b)) : WithinLimit P limit a :=
  fun p hp hn => h p (List.IsPrefix.trans hp (List.prefix_append a b)) hn

/-- one read preserves "the state is the outcome of the bytes so far" -/
theorem step_view (P : HeadParser) (limit : Nat) (alpn : Option String) (s : RS) (total d : Bytes)
    (h : s.view = outcome P alpn total) (hlim : P.parse (total ++ d) = .need → (total ++ d).length ≤ limit) :
    (s.step P limit d).view = outcome P alpn (total ++ d) := by
  obtain ⟨sel, ⟨proto, h11i, h2i⟩, cut⟩ := s
  -- the state is determined by the outcome so far, up to the bytes given to the HTTP/1 parser (`h3`)
  have h3 : (RS.view _).h11Consumed = _ := congrArg View.h11Consumed h
  obtain rfl : sel = _ := congrArg View.sel h
  obtain rfl : proto = _ := congrArg View.proto h
  obtain rfl : h2i = _ := congrArg View.h2Input h
  simp only [RS.view] at h3
  unfold outcome at h3 ⊢
  cases ha : selectByAlpn alpn with
  | h2 =>
    simp only [ha] at h3 ⊢
    simp [RS.step, W.read, RS.view, h3]
  | h11 =>
    simp only [ha] at h3 ⊢
    cases hp : P.parse total with
    | need =>
      simp only [hp] at h3 ⊢
      subst h3
      cases hq : P.parse (h11i ++ d) with
      | need =>
        have hlen : ¬ limit < h11i.length + d.length := by
          have := hlim hq
          simp only [List.length_append] at this
          omega
        simp [RS.step, hq, W.read, RS.view, hlen]
      | bad => simp [RS.step, hq, W.read, RS.view]
      | head r n =>
        have hn := P.head_le hq
        cases hc : checkProtocol r <;> simp [RS.step, hq, hc, W.read, RS.view, firstH2Input]
    | bad =>
      simp only [hp] at h3 ⊢
      subst h3
      simp [RS.step, P.bad_stable d hp, W.read, RS.view]
    | head r n =>
      -- the head is complete: more bytes change neither it nor where it ends
      have hn := P.head_le hp
      simp only [hp, P.head_stable d hp] at h3 ⊢
      cases hc : checkProtocol r <;> simp only [hc] at h3 ⊢ <;>
        simp [RS.step, W.read, RS.view, h3, List.take_append_of_le_length hn, List.drop_append_of_le_length hn]

theorem init_view (P : HeadParser) (alpn : Option String) : (RS.init alpn).view = outcome P alpn [] := by
  unfold RS.init outcome
  cases selectByAlpn alpn <;> simp [RS.view, P.nil_need]

theorem foldl_view (P : HeadParser) (limit : Nat) (alpn : Option String) (rs : List Bytes) :
    ∀ (s : RS) (total : Bytes), s.view = outcome P alpn total → WithinLimit P limit (total ++ rs.flatten) →
      (rs.foldl (RS.step P limit) s).view = outcome P alpn (total ++ rs.flatten) := by
  induction rs with
  | nil => intro s total h _; simpa using h
  | cons d t ih =>
    intro s total h hl
    simp only [List.foldl_cons, List.flatten_cons]
    rw [← List.append_assoc]
    apply ih
    · apply step_view P limit alpn s total d h
      intro hn
      exact hl (total ++ d) (by simp [List.flatten_cons, ← List.append_assoc]) hn
    · simpa [List.flatten_cons, List.append_assoc] using hl

/-- **the state after any sequence of reads is the outcome of their concatenation** -/
theorem run_view (P : HeadParser) (limit : Nat) (alpn : Option String) (rs : List Bytes)
    (hl : WithinLimit P limit rs.flatten) : (run P limit alpn rs).view = outcome P alpn rs.flatten := by
  have := foldl_view P limit alpn rs (RS.init alpn) [] (init_view P alpn) (by simpa using hl)
  simpa [run] using this

/-! ### ALPN: no parser involved, no limit -/

theorem alpn_step (P : HeadParser) (limit : Nat) (s : RS) (d : Bytes) (h1 : s.sel = .alpn) (h2 : s.w.proto = .h2) :
    (s.step P limit d).sel = .alpn ∧ (s.step P limit d).w.proto = .h2 ∧ (s.step P limit d).w.h11Input = s.w.h11Input ∧
    (s.step P limit d).w.h2Input = s.w.h2Input ++ d := by
  obtain ⟨sel, ⟨proto, h11i, h2i⟩, cut⟩ := s
  simp only at h1 h2
  subst h1 h2
  simp [RS.step, W.read]

theorem alpn_foldl (P : HeadParser) (limit : Nat) (rs : List Bytes) :
    ∀ s : RS, s.sel = .alpn → s.w.proto = .h2 →
      (rs.foldl (RS.step P limit) s).sel = .alpn ∧ (rs.foldl (RS.step P limit) s).w.proto = .h2 ∧
      (rs.foldl (RS.step P limit) s).w.h11Input = s.w.h11Input ∧ (rs.foldl (RS.step P limit) s).w.h2Input = s.w.h2Input ++ rs.flatten := by
  induction rs with
  | nil => intro s h1 h2; simp [h1, h2]
  | cons d t ih =>
    intro s h1 h2
    have hs := alpn_step P limit s d h1 h2
    have := ih (s.step P limit d) hs.1 hs.2.1
    simp only [List.foldl_cons, List.flatten_cons]
    refine ⟨this.1, this.2.1, ?_, ?_⟩
    · rw [this.2.2.1, hs.2.2.1]
    · rw [this.2.2.2, hs.2.2.2, List.append_assoc]

/-- once the protocol object is the `H2Protocol`, every read is appended to what it has been given -/
theorem reads_after_switch (l : List Bytes) : ∀ x : W, x.proto = .h2 →
    (l.foldl (fun w d => w.read d none) x).h2Input = x.h2Input ++ l.flatten := by
  induction l with
  | nil => intro x _; simp
  | cons a t ih =>
    intro x hx
    have h1 : (x.read a none).proto = .h2 ∧ (x.read a none).h2Input = x.h2Input ++ a := by simp [W.read, hx]
    rw [List.foldl_cons, List.flatten_cons, ih _ h1.1, h1.2, List.append_assoc]

/-! ### a concrete parser: the one the driver runs

`oracle hd r bad`: "the request head is the byte string `hd` and parses to `r`" (`bad = false`), or "`hd` is a malformed
head" (`bad = true`).  The harness takes `hd`, `r` from the installed h11 fed with the whole session, and checks h11's
answers on every prefix against this very function. -/

def oracleParse (hd : Bytes) (r : ReqEv) (bad : Bool) (buf : Bytes) : Parse :=
  if hd ≠ [] ∧ hd.isPrefixOf buf = true then (if bad then .bad else .head r hd.length) else .need

/-- once `hd` is a prefix of the buffer it stays one: an answer other than `NEED_DATA` is final -/
theorem oracleParse_stable {hd : Bytes} {r : ReqEv} {bad : Bool} {buf : Bytes} (more : Bytes) (h : oracleParse hd r bad buf ≠ .need) :
    oracleParse hd r bad (buf ++ more) = oracleParse hd r bad buf := by
  unfold oracleParse at h ⊢
  split at h
  · next hc =>
    rw [if_pos ⟨hc.1, List.isPrefixOf_iff_prefix.mpr ((List.isPrefixOf_iff_prefix.mp hc.2).trans (List.prefix_append _ _))⟩, if_pos hc]
  · exact absurd rfl h

def oracle (hd : Bytes) (r : ReqEv) (bad : Bool) : HeadParser where
  parse := oracleParse hd r bad
  nil_need := by
    unfold oracleParse
    cases hd <;> simp
  head_le := by
    intro buf r' n h
    unfold oracleParse at h
    split at h
    · rename_i hc
      cases bad <;> simp at h
      have := (List.isPrefixOf_iff_prefix.mp hc.2).length_le
      omega
    · simp at h
  head_stable := fun more h => (oracleParse_stable more (by rw [h]; nofun)).trans h
  bad_stable := fun more h => (oracleParse_stable more (by rw [h]; nofun)).trans h

end HC.Proto.Wrapper
