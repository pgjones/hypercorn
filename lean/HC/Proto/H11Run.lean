import HC.Proto.H11Inv
import HC.Stream.WsLemmas
/-!
# H11Run — application sends keep the invariant of `H11Inv` (lemmas for C04 `total_h1`; third of the chain
H11Total → H11Inv → H11Run → H11Ev → H11Safe)
-/
namespace HC.Proto.H11
open HC HC.Stream HC.Lib HC.Extracted.H11Tables

/-- facts true of any sequence of calls into h11's `send` -/
structure LibStep (a b : H11M.St) : Prop where
  idle : b.client = .idle → a.client = .idle
  err : a.client = .error → b.client = .error
  wait : b.waiting100 = true → a.waiting100 = true

theorem LibStep.refl (a : H11M.St) : LibStep a a := ⟨id, id, id⟩
theorem LibStep.trans {a b c : H11M.St} (h1 : LibStep a b) (h2 : LibStep b c) : LibStep a c :=
  ⟨fun h => h1.idle (h2.idle h), fun h => h2.err (h1.err h), fun h => h1.wait (h2.wait h)⟩

theorem libSend_step (st : St) (e : LibSend) : LibStep st.lib (libSend st e).1.lib :=
  ⟨(libSend_facts st e).1, (libSend_facts st e).2.1, (libSend_facts st e).2.2.1⟩

/-! ## HTTP streams -/

/-- stream events that reach h11 as InformationalResponse / Response / Data, or not at all -/
def HPlain : Http.Ev → Prop
  | .endBody => False
  | .streamClosed => False
  | _ => True

/-- what a run of plain events does: only h11's state changes; the writer is left where it was or out of IDLE/DONE/MUST_CLOSE -/
structure PlainRun (st : St) (r : St × List Out × Bool) : Prop where
  shape : r.1 = { st with lib := r.1.lib }
  step : LibStep st.lib r.1.lib
  sv : r.1.lib = st.lib ∨ H11M.NotBad r.1.lib.server
  raised : r.2.2 = true → r.1.lib.server = .error

theorem plainRun_libSend (st : St) (e : LibSend) (he : e ≠ .eom) : PlainRun st (libSend st e) :=
  ⟨libSend_shape st e, libSend_step st e, Or.inr (libSend_notBad st e he), libSend_raised st e⟩

theorem plainRun_id (st : St) (o : List Out) : PlainRun st (st, o, false) :=
  ⟨rfl, LibStep.refl _, Or.inl rfl, fun h => by cases h⟩

theorem httpStreamSend_plain (cfg : Cfg) (st : St) (e : Http.Ev) (h : HPlain e) : PlainRun st (httpStreamSend cfg st e) := by
  cases e with
  | response status hs =>
    simp only [httpStreamSend]
    split
    · exact plainRun_libSend _ _ (by simp)
    · exact plainRun_libSend _ _ (by simp)
  | info _ _ => exact plainRun_id _ _
  | body d => simp only [httpStreamSend]; exact plainRun_libSend _ _ (by simp)
  | endBody => exact absurd h id
  | trailers _ => exact plainRun_id _ _
  | push _ _ => exact plainRun_id _ _
  | access a => exact plainRun_id _ _
  | spawnClose => exact plainRun_id _ _
  | streamClosed => exact absurd h id

theorem PlainRun.comp {st : St} {r1 : St × List Out × Bool} {r2 : St × List Out × Bool} (h1 : PlainRun st r1) (h2 : PlainRun r1.1 r2)
    (o : List Out) : PlainRun st (r2.1, o, r2.2.2) := by
  refine ⟨?_, h1.step.trans h2.step, ?_, h2.raised⟩
  · have a := h2.shape; have b := h1.shape
    simp only at a b ⊢
    rw [a, b]
  · rcases h2.sv with h | h
    · rcases h1.sv with h' | h'
      · exact Or.inl (by simp only at h h' ⊢; rw [h, h'])
      · exact Or.inr (by simp only at h ⊢; rw [h]; exact h')
    · exact Or.inr h

theorem runHttp_plain (cfg : Cfg) : ∀ (evs : List Http.Ev) (st : St), (∀ e ∈ evs, HPlain e) → PlainRun st (runHttpEvs cfg st evs) := by
  intro evs
  induction evs with
  | nil => intro st _; exact plainRun_id _ _
  | cons e es ih =>
    intro st h
    have h1 := httpStreamSend_plain cfg st e (h e (by simp))
    simp only [runHttpEvs]
    split
    · rename_i hr; exact ⟨h1.shape, h1.step, h1.sv, fun _ => h1.raised hr⟩
    · have h2 := ih (httpStreamSend cfg st e).1 (fun e' he' => h e' (by simp [he']))
      exact h1.comp h2 _

theorem runHttpEvs_append (cfg : Cfg) : ∀ (a b : List Http.Ev) (st : St),
    runHttpEvs cfg st (a ++ b) =
      if (runHttpEvs cfg st a).2.2 then runHttpEvs cfg st a
      else ((runHttpEvs cfg (runHttpEvs cfg st a).1 b).1, (runHttpEvs cfg st a).2.1 ++ (runHttpEvs cfg (runHttpEvs cfg st a).1 b).2.1,
            (runHttpEvs cfg (runHttpEvs cfg st a).1 b).2.2) := by
  intro a
  induction a with
  | nil => intro b st; simp [runHttpEvs]
  | cons e es ih =>
    intro b st
    simp only [List.cons_append, runHttpEvs]
    by_cases hr : (httpStreamSend cfg st e).2.2 = true
    · simp [hr]
    · simp only [hr, Bool.false_eq_true, if_false]
      rw [ih]
      split <;> simp

/-- the closing tail of a response: EndOfMessage, the access record, then `StreamClosed` (= `_maybe_recycle`) -/
theorem runHttp_tail (cfg : Cfg) (st : St) (a : Option Nat) :
    runHttpEvs cfg st [.endBody, .access a, .streamClosed] =
      if (libSend st .eom).2.2 then ((libSend st .eom).1, (libSend st .eom).2.1, true)
      else ((maybeRecycle (libSend st .eom).1).1, (libSend st .eom).2.1 ++ ([Out.access a] ++ ((maybeRecycle (libSend st .eom).1).2 ++ [])), false) := by
  by_cases h : (libSend st .eom).2.2 = true
  · simp [runHttpEvs, httpStreamSend, h]
  · simp [runHttpEvs, httpStreamSend, h]

/-- the shapes of what `HTTPStream.app_send` hands to the protocol -/
inductive HShape (s : Http.S) : Http.S → List Http.Ev → Prop where
  | plain (s' : Http.S) (evs : List Http.Ev) : (∀ e ∈ evs, HPlain e) → s'.closed = s.closed → (s'.st = .closed ↔ s.st = .closed) →
      ((s'.st = .response ∨ s'.st = .trailers) → s'.response.isSome = true) → HShape s s' evs
  | closing (s' : Http.S) (pre : List Http.Ev) (a : Option Nat) : (∀ e ∈ pre, HPlain e) → s'.closed = s.closed → s'.st = .closed →
      HShape s s' (pre ++ [.endBody, .access a, .streamClosed])
  | quit : HShape s s [.streamClosed]
  | ending (s' : Http.S) : s'.closed = s.closed → s'.st = .closed → HShape s s' [.endBody]     -- `_send_closed` with `self.response` unset

theorem bodyEvs_plain {evs : List Http.Ev} (h : Http.BodyEvs evs) : ∀ e ∈ evs, HPlain e := by
  cases h <;> simp [HPlain]

/-- every row of the table of `app_send` has one of the shapes -/
theorem http_appSend_shape (s : Http.S) (m : Option Http.Msg)
    (hresp : (s.st = .response ∨ s.st = .trailers) → s.response.isSome = true) :
    HShape s (Http.appSend s m).1 (Http.appSend s m).2.1 := by
  have h := Http.sent_appSend s m
  generalize Http.appSend s m = o at h
  -- `_send_closed`: with `self.response` set the access record and `StreamClosed` follow the `EndBody`
  have closed : ∀ (pre tail : List Http.Ev) (e : Option PyErr), (∀ x ∈ pre, HPlain x) → pre = [] ∨ s.response.isSome = true →
      Http.Closing s tail e → HShape s { s with st := .closed } (pre ++ .endBody :: tail) := by
    intro pre tail e hp hr hc
    cases hc with
    | done => exact .closing _ pre _ hp rfl rfl
    | noResponse hn =>
      rcases hr with rfl | hr
      · exact .ending _ rfl rfl
      · rw [hn] at hr; cases hr
  cases h with
  | inert | noop => exact .plain s [] (by simp) rfl Iff.rfl hresp
  | exit500 => exact .closing _ [.response 500 Http.h500] (some 500) (by simp [HPlain]) rfl rfl
  | exit => exact .quit
  | startRefused _ hst => exact .plain _ [] (by simp) rfl Iff.rfl (by simp [hst])
  | start hst => exact .plain _ _ (by simp [HPlain]) rfl (by simp [hst]) (by simp)
  | push => exact .plain s _ (by simp [HPlain]) rfl Iff.rfl hresp
  | hint => exact .plain s _ (by simp [HPlain]) rfl Iff.rfl hresp
  | bodyMore _ hb => exact .plain s _ (bodyEvs_plain hb) rfl Iff.rfl hresp
  | bodyThenTrailers hst hb => exact .plain _ _ (bodyEvs_plain hb) rfl (by simp [hst]) (fun _ => hresp (.inl hst))
  | bodyEnd _ _ hb => exact .closing _ _ _ (bodyEvs_plain hb) rfl rfl
  | trailersFirst _ hst => exact .plain _ _ (by simp [HPlain]) rfl (by simp [hst]) (by simp)
  | trailersFirstEnd => exact .closing _ [.response 200 _] (some 200) (by simp [HPlain]) rfl rfl
  | trailers => exact .plain s _ (by simp [HPlain]) rfl Iff.rfl hresp
  | trailersEnd hst _ hc => exact closed [.trailers _] _ _ (by simp [HPlain]) (.inr (hresp (.inr hst))) hc
  | droppedTrailersFirstEnd _ _ hc => exact closed [] _ _ (by simp) (.inl rfl) hc
  | droppedTrailersEnd _ hc => exact closed [] _ _ (by simp) (.inl rfl) hc

/-- scheduling: between a `Request` carrying `Expect: 100-continue` and the top of the reader's next iteration (where the
    100 Continue goes out) there is no suspension point, so no application runs there -/
def sched (st : St) : Bool := !(st.lib.waiting100 && !st.wsMode && !st.switched && st.pc == .inLoop)

theorem http_inert_send (s : Http.S) (m : Option Http.Msg) (h : HttpInert s) :
    (Http.appSend s m).1 = s ∧ (Http.appSend s m).2.1 = [] := by
  obtain ⟨h1, h2⟩ := h
  cases m with
  | none => simp [Http.appSend, h2]
  | some msg => cases msg <;> simp [Http.appSend, h1]

theorem appSendHttp_fst (cfg : Cfg) (st : St) (i : Nat) (m : Option Http.Msg) (s : Http.S) (hobj : st.objs[i]? = some (Stream.http s)) :
    (appSendHttp cfg st i m).1 =
      if (runHttpEvs cfg (st.setObj i (.http (Http.appSend s m).1)) (Http.appSend s m).2.1).2.2 = true
      then (runHttpEvs cfg (st.setObj i (.http (Http.appSend s m).1)) (Http.appSend s m).2.1).1.setObj i (.http s)
      else (runHttpEvs cfg (st.setObj i (.http (Http.appSend s m).1)) (Http.appSend s m).2.1).1 := by
  unfold appSendHttp
  rw [hobj]
  simp only []
  by_cases h : (runHttpEvs cfg (st.setObj i (.http (Http.appSend s m).1)) (Http.appSend s m).2.1).2.2 = true
  · simp [h]
  · simp [h]

theorem setObj_lib_back (st : St) (i : Nat) (a b : Stream) (lib' : H11M.St) (h : st.objs[i]? = some b) :
    ({ (st.setObj i a) with lib := lib' } : St).setObj i b = { st with lib := lib' } := by
  simp [St.setObj, List.set_set, set_self _ _ _ h]

/-- **an HTTP application's `send` keeps the invariant**, whatever it sends and whichever stream object (live or orphaned) it owns -/
theorem appSendHttp_inv (cfg : Cfg) (st : St) (g : Ws.Frag) (i : Nat) (m : Option Http.Msg) (hI : Inv st g) (hs : sched st = true) :
    Inv (appSendHttp cfg st i m).1 g := by
  cases hobj : st.objs[i]? with
  | none => simp [appSendHttp, hobj]; exact hI
  | some o =>
    cases o with
    | ws s => simp [appSendHttp, hobj]; exact hI
    | http s =>
      rw [appSendHttp_fst cfg st i m s hobj]
      by_cases hin : HttpInert s
      · obtain ⟨h1, h2⟩ := http_inert_send s m hin
        rw [h1, h2]
        simp [runHttpEvs, St.setObj_self st i _ hobj]
        exact hI
      · have hlast : i + 1 = st.objs.length ∧ st.lib.client ≠ .idle := by
          rcases hI.objs i _ hobj with h | h
          · exact absurd h hin
          · exact h
        have hwait : ∀ lib' : H11M.St, (lib'.waiting100 = true → st.lib.waiting100 = true) → lib'.waiting100 = true → st.wsMode = false →
            st.switched = false → lib'.server = .sendResponse ∧ st.pc = .inLoop := by
          intro lib' hw h1 h2 h3
          exfalso
          have := hI.wait (hw h1) h2 h3
          simp [sched, hw h1, h2, h3, this.2] at hs
        -- a raise (or any other outcome that only changed h11) leaves every object as it was
        have hback : ∀ lib' : H11M.St, LibStep st.lib lib' → H11M.NotBad lib'.server → Inv { st with lib := lib' } g := by
          intro lib' hstep hnb
          refine inv_frame hI rfl rfl rfl hstep.idle (fun _ _ _ _ => Or.inr hnb) ?_ (hwait lib' hstep.wait)
          intro _ j sw hcur hj _ _
          exfalso
          have : j = i := by have := hI.curLast j hcur; omega
          subst this
          rw [hobj] at hj; cases hj
        have herr : H11M.NotBad HSt.error := ⟨by decide, by decide, by decide⟩
        have hshape := http_appSend_shape s m (hI.httpObj i s hobj)
        generalize (Http.appSend s m).1 = s' at hshape ⊢
        generalize (Http.appSend s m).2.1 = evs at hshape ⊢
        -- the EndOfMessage that ends a response: refused and re-raised (the object is put back), or the stream is closed now
        have heom : s'.closed = s.closed → s'.st = .closed → ∀ L1 : H11M.St, LibStep st.lib L1 →
            ((libSend { (st.setObj i (.http s')) with lib := L1 } .eom).2.2 = true →
              Inv ((libSend { (st.setObj i (.http s')) with lib := L1 } .eom).1.setObj i (.http s)) g) ∧
            ((libSend { (st.setObj i (.http s')) with lib := L1 } .eom).2.2 = false →
              Inv (libSend { (st.setObj i (.http s')) with lib := L1 } .eom).1 g) := by
          intro hcl hstc L1 hstep1
          obtain ⟨L2, hL2⟩ : ∃ L, (libSend { (st.setObj i (.http s')) with lib := L1 } .eom).1 =
              { (st.setObj i (.http s')) with lib := L } := ⟨_, libSend_shape _ _⟩
          have hstep2 : LibStep st.lib L2 := by
            have := hstep1.trans (libSend_step { (st.setObj i (.http s')) with lib := L1 } .eom)
            rw [hL2] at this; exact this
          refine ⟨fun hr2 => ?_, fun _ => ?_⟩
          · have hsv := libSend_raised { (st.setObj i (.http s')) with lib := L1 } .eom hr2
            rw [hL2] at hsv ⊢
            rw [setObj_lib_back st i _ _ _ hobj]
            exact hback _ hstep2 (by rw [hsv]; exact herr)
          · rw [hL2]
            exact inv_setHttp hI i s s' _ hobj hlast.1 (by simp [hstc]) hcl (Or.inr fun h => hlast.2 (hstep2.idle h)) hstep2.idle
              (fun hne => absurd hstc hne) (hwait _ hstep2.wait)
        cases hshape with
        | plain _ _ hpl hcl hstc hresp =>
          have hp := runHttp_plain cfg evs (st.setObj i (.http s')) hpl
          by_cases hr : (runHttpEvs cfg (st.setObj i (.http s')) evs).2.2 = true
          · rw [if_pos hr, hp.shape, setObj_lib_back st i _ _ _ hobj]
            exact hback _ hp.step (by rw [hp.raised hr]; exact herr)
          · rw [if_neg hr, hp.shape]
            refine inv_setHttp hI i s s' _ hobj hlast.1 hresp hcl (Or.inr fun h => hlast.2 (hp.step.idle h)) hp.step.idle ?_ (hwait _ hp.step.wait)
            intro hne
            rcases hp.sv with h | h
            · rw [h]; exact hI.live i s hobj (fun h' => hne (hstc.mpr h'))
            · exact Or.inr h
        | closing _ pre a hpl hcl hstc =>
          have hp := runHttp_plain cfg pre (st.setObj i (.http s')) hpl
          rw [runHttpEvs_append]
          by_cases hr : (runHttpEvs cfg (st.setObj i (.http s')) pre).2.2 = true
          · simp only [hr, if_true]
            rw [hp.shape, setObj_lib_back st i _ _ _ hobj]
            exact hback _ hp.step (by rw [hp.raised hr]; exact herr)
          · simp only [hr, Bool.false_eq_true, if_false]
            rw [runHttp_tail]
            obtain ⟨L1, hL1⟩ : ∃ L, (runHttpEvs cfg (st.setObj i (.http s')) pre).1 = { (st.setObj i (.http s')) with lib := L } := ⟨_, hp.shape⟩
            have hstep1 : LibStep st.lib L1 := by have := hp.step; rw [hL1] at this; exact this
            rw [hL1]
            by_cases hr2 : (libSend { (st.setObj i (.http s')) with lib := L1 } .eom).2.2 = true
            · simp only [hr2, if_true]
              exact (heom hcl hstc L1 hstep1).1 hr2
            · simp only [hr2, Bool.false_eq_true, if_false]
              exact inv_maybeRecycle (b := true) ((heom hcl hstc L1 hstep1).2 (Bool.eq_false_iff.mpr hr2))
        | quit =>
          simp only [runHttpEvs, httpStreamSend, St.setObj_self st i _ hobj, Bool.false_eq_true, if_false]
          exact inv_maybeRecycle hI
        | ending _ hcl hstc =>
          simp only [runHttpEvs, httpStreamSend]
          by_cases hr : (libSend (st.setObj i (.http s')) .eom).2.2 = true
          · simp only [hr, if_true]
            exact (heom hcl hstc st.lib (LibStep.refl _)).1 hr
          · simp only [hr, Bool.false_eq_true, if_false]
            exact (heom hcl hstc st.lib (LibStep.refl _)).2 (Bool.eq_false_iff.mpr hr)

/-! ## WebSocket streams -/

/-- stream events other than `StreamClosed`: they reach h11 as a `send`, or the transport, or nothing -/
def WPlain : Ws.Ev → Prop
  | .streamClosed => False
  | _ => True

/-- the same for WebSocket stream events; EndOfMessage is among them, so nothing is said of the writer's state -/
structure PlainRunW (st : St) (r : St × List Out × Bool) : Prop where
  shape : r.1 = { st with lib := r.1.lib }
  step : LibStep st.lib r.1.lib
  raised : r.2.2 = true → r.1.lib.server = .error

theorem plainRunW_libSend (st : St) (e : LibSend) : PlainRunW st (libSend st e) :=
  ⟨libSend_shape st e, libSend_step st e, libSend_raised st e⟩

theorem plainRunW_id (st : St) (o : List Out) : PlainRunW st (st, o, false) :=
  ⟨rfl, LibStep.refl _, fun h => by cases h⟩

theorem wsStreamSend_plain (cfg : Cfg) (st : St) (e : Ws.Ev) (h : WPlain e) : PlainRunW st (wsStreamSend cfg st e) := by
  cases e with
  | response status hs =>
    simp only [wsStreamSend]
    split
    · exact plainRunW_libSend _ _
    · exact plainRunW_libSend _ _
  | body d => simp only [wsStreamSend]; exact plainRunW_libSend _ _
  | endBody => simp only [wsStreamSend]; exact plainRunW_libSend _ _
  | data _ => exact plainRunW_id _ _
  | endData => exact plainRunW_id _ _
  | streamClosed => exact absurd h id
  | access a => exact plainRunW_id _ _
  | spawnPings => exact plainRunW_id _ _
  | spawnClose => exact plainRunW_id _ _

theorem PlainRunW.comp {st : St} {r1 r2 : St × List Out × Bool} (h1 : PlainRunW st r1) (h2 : PlainRunW r1.1 r2)
    (o : List Out) : PlainRunW st (r2.1, o, r2.2.2) := by
  refine ⟨?_, h1.step.trans h2.step, h2.raised⟩
  have a := h2.shape; have b := h1.shape
  simp only at a b ⊢
  rw [a, b]

theorem runWs_plain (cfg : Cfg) : ∀ (evs : List Ws.Ev) (st : St), (∀ e ∈ evs, WPlain e) → PlainRunW st (runWsEvs cfg st evs) := by
  intro evs
  induction evs with
  | nil => intro st _; exact plainRunW_id _ _
  | cons e es ih =>
    intro st h
    have h1 := wsStreamSend_plain cfg st e (h e (by simp))
    simp only [runWsEvs]
    split
    · rename_i hr; exact ⟨h1.shape, h1.step, fun _ => h1.raised hr⟩
    · have h2 := ih (wsStreamSend cfg st e).1 (fun e' he' => h e' (by simp [he']))
      exact h1.comp h2 _

theorem runWsEvs_append (cfg : Cfg) : ∀ (a b : List Ws.Ev) (st : St),
    runWsEvs cfg st (a ++ b) =
      if (runWsEvs cfg st a).2.2 then runWsEvs cfg st a
      else ((runWsEvs cfg (runWsEvs cfg st a).1 b).1, (runWsEvs cfg st a).2.1 ++ (runWsEvs cfg (runWsEvs cfg st a).1 b).2.1,
            (runWsEvs cfg (runWsEvs cfg st a).1 b).2.2) := by
  intro a
  induction a with
  | nil => intro b st; simp [runWsEvs]
  | cons e es ih =>
    intro b st
    simp only [List.cons_append, runWsEvs]
    by_cases hr : (wsStreamSend cfg st e).2.2 = true
    · simp [hr]
    · simp only [hr, Bool.false_eq_true, if_false]
      rw [ih]
      split <;> simp

theorem firstRaisedWs_mem (cfg : Cfg) : ∀ (evs : List Ws.Ev) (st : St) (e : Ws.Ev), firstRaisedWs cfg st evs = some e → e ∈ evs := by
  intro evs
  induction evs with
  | nil => intro st e h; simp [firstRaisedWs] at h
  | cons x xs ih =>
    intro st e h
    simp only [firstRaisedWs] at h
    split at h
    · simp only [Option.some.injEq] at h; simp [h]
    · simp [ih _ _ h]

/-- a head sent from SEND_RESPONSE (with the upgrade proposal registered, as for a WebSocket request) is accepted by h11 -/
theorem ws_response_accepted (cfg : Cfg) (st : St) (status : Nat) (hs : Headers) (h1 : st.lib.server = .sendResponse)
    (h2 : st.lib.pendUpgrade = true) : (wsStreamSend cfg st (.response status hs)).2.2 = false := by
  simp only [wsStreamSend]
  split
  · exact (libSend_response_ok st _ _ h1).1
  · exact (libSend_info_ok st _ _ h1 (fun _ => h2)).1

def isResponseEv : Ws.Ev → Bool
  | .response _ _ => true
  | _ => false

/-- the events of `_send_rejection` from HANDSHAKE: nothing (the message was refused), or the response head followed by
    events that are not heads -/
theorem sendRejection_evs (s : Ws.S) (body : Option HV) (more : Bool) (hst : s.st = .handshake) :
    (Ws.sendRejection s body more).2.1 = [] ∨
    ∃ status vh rest, (Ws.sendRejection s body more).2.1 = .response status vh :: rest ∧ ∀ e ∈ rest, isResponseEv e = false := by
  have h := Ws.rejected_sendRejection s body more
  generalize Ws.sendRejection s body more = o at h
  cases h with
  | refused => exact .inl rfl
  | headPart _ hb => exact .inr ⟨_, _, _, rfl, by cases hb <;> simp [isResponseEv]⟩
  | headLast _ hb => exact .inr ⟨_, _, _, rfl, by cases hb <;> simp [isResponseEv]⟩
  | part hne => exact absurd hst hne
  | last hne => exact absurd hst hne

/-- the two shapes of what `WSStream.app_send` hands to the protocol -/
inductive WShape (s : Ws.S) : Ws.S → List Ws.Ev → Prop where
  | plain (s' : Ws.S) (evs : List Ws.Ev) : (∀ e ∈ evs, WPlain e) → (s'.st = .handshake → evs = []) → WShape s s' evs
  | closing (s' : Ws.S) (pre : List Ws.Ev) : (∀ e ∈ pre, WPlain e) → (s.st = .handshake → pre = Ws.errorResponse 500) →
      WShape s s' (pre ++ [.streamClosed])

/-- `_send_wsproto_event` hands over at most the frame and leaves the stream's state alone -/
theorem wsSent_plain {s : Ws.S} {o : Ws.WsOut} {r : Ws.Out} (h : Ws.WsSent s o r) : (∀ e ∈ r.2.1, WPlain e) ∧ r.1.st = s.st := by
  cases h <;> exact ⟨by simp [WPlain], rfl⟩

/-- every row of the table of `app_send` has one of the two shapes -/
theorem ws_appSend_shape (token : Bytes → Bytes) (ext : Option Bytes) (s : Ws.S) (m : Option Ws.Msg) :
    WShape s (Ws.appSend token ext s m).1 (Ws.appSend token ext s m).2.1 := by
  have h := Ws.sent_appSend token ext s m
  generalize Ws.appSend token ext s m = o at h
  have body : ∀ b : List Ws.Ev, Ws.DenialBody b → ∀ e ∈ b, WPlain e := fun b hb => by cases hb <;> simp [WPlain]
  cases h with
  | inert | refused => exact .plain _ [] (by simp) fun _ => rfl
  | exit500 => exact .closing _ _ (by simp [Ws.errorResponse, WPlain]) fun _ => rfl
  | exit1011 _ hst hw => exact .closing _ _ (wsSent_plain hw).1 fun h => by rw [hst] at h; cases h
  | exit _ hne => exact .closing s [] (by simp) fun h => absurd h hne
  | accept => exact .plain _ _ (by intro e he; split at he <;> simp at he <;> rcases he with rfl | rfl | rfl <;> trivial) (by simp)
  | respStart => exact .plain _ [] (by simp) fun _ => rfl
  | respBody _ _ hr =>
    cases hr with
    | refused => exact .plain _ [] (by simp) fun _ => rfl
    | headPart _ hb => exact .plain _ _ (by simpa [WPlain] using body _ hb) (by simp)
    | headLast _ hb => exact .plain _ _ (by intro e he; simp at he; rcases he with rfl | he | rfl | rfl <;> first | trivial | exact body _ hb e he) (by simp)
    | part hne hb => exact .plain _ _ (body _ hb) fun h => absurd h hne
    | last _ hb => exact .plain _ _ (by intro e he; simp at he; rcases he with he | rfl | rfl <;> first | trivial | exact body _ hb e he) (by simp)
  | send _ hst hw => exact .plain _ _ (wsSent_plain hw).1 fun h => by rw [(wsSent_plain hw).2, hst] at h; cases h
  | close403 => exact .plain _ _ (by simp [Ws.errorResponse, WPlain]) (by simp)
  | close _ _ _ hw =>
    refine .plain _ _ (fun e he => ?_) fun h => by rw [(wsSent_plain hw).2] at h; cases h
    rcases List.mem_append.mp he with he | he
    · exact (wsSent_plain hw).1 e he
    · simp at he; subst he; trivial

theorem appSendWs_fst (cfg : Cfg) (token : Bytes → Bytes) (ext : Option Bytes) (st : St) (i : Nat) (m : Option Ws.Msg) (s : Ws.S)
    (hobj : st.objs[i]? = some (Stream.ws s)) :
    (appSendWs cfg token ext st i m).1 =
      if (runWsEvs cfg (st.setObj i (.ws (Ws.appSend token ext s m).1)) (Ws.appSend token ext s m).2.1).2.2 = true
      then (runWsEvs cfg (st.setObj i (.ws (Ws.appSend token ext s m).1)) (Ws.appSend token ext s m).2.1).1.setObj i
        (.ws (Ws.stateAtRaise m s (Ws.appSend token ext s m).1
          (firstRaisedWs cfg (st.setObj i (.ws (Ws.appSend token ext s m).1)) (Ws.appSend token ext s m).2.1)))
      else (runWsEvs cfg (st.setObj i (.ws (Ws.appSend token ext s m).1)) (Ws.appSend token ext s m).2.1).1 := by
  unfold appSendWs
  rw [hobj]
  simp only []
  by_cases h : (runWsEvs cfg (st.setObj i (.ws (Ws.appSend token ext s m).1)) (Ws.appSend token ext s m).2.1).2.2 = true
  · simp [h]
  · simp [h]

theorem setObj_lib_set (st : St) (i : Nat) (a b : Stream) (lib' : H11M.St) :
    ({ (st.setObj i a) with lib := lib' } : St).setObj i b = { st with objs := st.objs.set i b, lib := lib' } := by
  simp [St.setObj, List.set_set]

/-- a stream's own error response (a final, non-2xx head, then the end of the body) sent from SEND_RESPONSE is accepted by h11 -/
theorem runWs_errorResponse_ok (cfg : Cfg) (st : St) (status : Nat) (h1 : st.lib.server = .sendResponse)
    (hfin : Extracted.Guards.h11FinalStatusCmp.eval status 200 = true) (hns : ¬ (200 ≤ status ∧ status < 300)) :
    (runWsEvs cfg st (Ws.errorResponse status)).2.2 = false := by
  have hresp : ∀ hs, (libSend st (.response status hs)).2.2 = false ∧ (libSend st (.response status hs)).1.lib.server = .sendBody :=
    fun hs => ⟨(libSend_response_ok st status hs h1).1, (libSend_response_ok st status hs h1).2.1 (fun h => hns h.2)⟩
  simp only [Ws.errorResponse, runWsEvs, wsStreamSend, Proto.Heads.h11Response, hfin, if_true]
  simp only [(hresp _).1, Bool.false_eq_true, if_false, libSend_eom_ok _ (hresp _).2]

theorem runWs_streamClosed (cfg : Cfg) (st : St) :
    runWsEvs cfg st [.streamClosed] = ((maybeRecycle st).1, (maybeRecycle st).2 ++ [], false) := by
  simp [runWsEvs, wsStreamSend]

/-- **a WebSocket application's `send` keeps the invariant** -/
theorem appSendWs_inv (cfg : Cfg) (token : Bytes → Bytes) (ext : Option Bytes) (st : St) (g : Ws.Frag) (i : Nat) (m : Option Ws.Msg)
    (hI : Inv st g) : Inv (appSendWs cfg token ext st i m).1 g := by
  cases hobj : st.objs[i]? with
  | none => simp [appSendWs, hobj]; exact hI
  | some o =>
    cases o with
    | http s => simp [appSendWs, hobj]; exact hI
    | ws s =>
      rw [appSendWs_fst cfg token ext st i m s hobj]
      by_cases hcl : s.closed = true
      · have h1 : Ws.appSend token ext s m = (s, [], none) := by simp [Ws.appSend, hcl]
        rw [h1]
        simp [runWsEvs, St.setObj_self st i _ hobj]
        exact hI
      · have hcl' : s.closed = false := by simpa using hcl
        have hcur : st.cur = some i := hI.openCur i _ hobj (by simpa [closedFlag] using hcl')
        have hlast : i + 1 = st.objs.length := hI.curLast i hcur
        obtain ⟨hwm, hok⟩ := hI.wsObj i s hobj
        have hnidle : st.lib.client ≠ .idle := by
          rcases hI.objs i _ hobj with h | h
          · simp [Inert, hcl'] at h
          · exact h.2
        have hand0 : s.st = .handshake → st.lib.server = .sendResponse ∧ st.lib.pendUpgrade = true :=
          fun h => hI.hand rfl i s hcur hobj h hcl'
        have hkeep := Ws.appSend_keeps token ext s m hok
        have hkeepR := fun at' => Ws.stateAtRaise_keeps token ext s m at' hok
        have hshape := ws_appSend_shape token ext s m
        -- the stream as it stands after a raise is not in HANDSHAKE
        have hraise : ∀ (evs : List Ws.Ev), evs = (Ws.appSend token ext s m).2.1 → evs ≠ [] →
            ((Ws.appSend token ext s m).1.st = .handshake → evs = []) →
            (runWsEvs cfg (st.setObj i (.ws (Ws.appSend token ext s m).1)) evs).2.2 = true →
            (Ws.stateAtRaise m s (Ws.appSend token ext s m).1 (firstRaisedWs cfg (st.setObj i (.ws (Ws.appSend token ext s m).1)) evs)).st ≠ .handshake := by
          intro evs hevs hne hnil hr hst
          have hs' : (Ws.appSend token ext s m).1.st ≠ .handshake := fun h => hne (hnil h)
          unfold Ws.stateAtRaise at hst
          split at hst
          · simp at hst
          · simp at hst
          · exact hs' hst
        generalize hs'eq : (Ws.appSend token ext s m).1 = s' at hshape hkeep hkeepR hraise ⊢
        generalize hevseq : (Ws.appSend token ext s m).2.1 = evs at hshape hraise ⊢
        cases hshape with
        | plain =>
          rename_i hpl hnil
          have hp := runWs_plain cfg evs (st.setObj i (.ws s')) hpl
          obtain ⟨L, hL⟩ : ∃ L, (runWsEvs cfg (st.setObj i (.ws s')) evs).1 = { (st.setObj i (.ws s')) with lib := L } := ⟨_, hp.shape⟩
          have hstep : LibStep st.lib L := by have := hp.step; rw [hL] at this; exact this
          by_cases hr : (runWsEvs cfg (st.setObj i (.ws s')) evs).2.2 = true
          · rw [if_pos hr, hL, setObj_lib_set]
            have hne : evs ≠ [] := by intro h; subst h; simp [runWsEvs] at hr
            have hk := hkeepR (firstRaisedWs cfg (st.setObj i (.ws s')) evs)
            exact inv_setWs hI i s _ L hobj hlast hk.2.1 (by rw [hk.1]; exact hI.buf i s hcur hobj) (fun h => by rw [← hk.2.2.1]; exact h)
              (Or.inr fun h => hnidle (hstep.idle h)) hstep.idle (fun _ _ h _ => absurd h (hraise evs rfl hne hnil hr))
          · rw [if_neg hr, hL]
            refine inv_setWs hI i s s' L hobj hlast hkeep.2.1 (by rw [hkeep.1]; exact hI.buf i s hcur hobj) (fun h => by rw [← hkeep.2.2.1]; exact h)
              (Or.inr fun h => hnidle (hstep.idle h)) hstep.idle ?_
            intro _ _ h _
            have hn := hnil h
            subst hn
            simp only [runWsEvs] at hL
            have : L = st.lib := by
              have := congrArg St.lib hL; simpa [St.setObj] using this.symm
            rw [this]; exact hand0 (hkeep.2.2.2 h)
        | closing =>
          rename_i pre hpl hpre
          have hp := runWs_plain cfg pre (st.setObj i (.ws s')) hpl
          obtain ⟨L, hL⟩ : ∃ L, (runWsEvs cfg (st.setObj i (.ws s')) pre).1 = { (st.setObj i (.ws s')) with lib := L } := ⟨_, hp.shape⟩
          have hstep : LibStep st.lib L := by have := hp.step; rw [hL] at this; exact this
          -- from HANDSHAKE the 500 goes out without a raise
          have hnoraise : s.st = .handshake → (runWsEvs cfg (st.setObj i (.ws s')) pre).2.2 = false := by
            intro hst
            rw [hpre hst]
            exact runWs_errorResponse_ok cfg _ 500 (hand0 hst).1 (by decide) (by omega)
          rw [runWsEvs_append, runWs_streamClosed]
          by_cases hr : (runWsEvs cfg (st.setObj i (.ws s')) pre).2.2 = true
          · simp only [hr, if_true]
            rw [hL, setObj_lib_set]
            have hk := hkeepR (firstRaisedWs cfg (st.setObj i (.ws s')) (pre ++ [.streamClosed]))
            refine inv_setWs hI i s _ L hobj hlast hk.2.1 (by rw [hk.1]; exact hI.buf i s hcur hobj) (fun h => by rw [← hk.2.2.1]; exact h)
              (Or.inr fun h => hnidle (hstep.idle h)) hstep.idle ?_
            intro _ _ h _
            have hst := hk.2.2.2 h
            rw [hnoraise hst] at hr; cases hr
          · simp only [hr, Bool.false_eq_true, if_false]
            apply inv_maybeRecycle (b := false)
            rw [hL]
            exact inv_setWs hI i s s' L hobj hlast hkeep.2.1 (by rw [hkeep.1]; exact hI.buf i s hcur hobj) (fun h => by rw [← hkeep.2.2.1]; exact h)
              (Or.inr fun h => hnidle (hstep.idle h)) hstep.idle (fun hb => by cases hb)

end HC.Proto.H11
