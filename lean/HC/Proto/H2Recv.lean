import HC.Prelude
import HC.Extracted.C04Sites
/-!
# H2Recv — the RECEIVE side of `hypercorn/protocol/h2.py` (`H2Protocol`) as an `Except`-valued machine

What is modelled, call by call: `handle(RawData)` (`receive_data` raising, `_handle_events` per event kind, `_flush`),
`handle(Closed)`, `_create_stream` (decode checks, the conditional local `raw_path`, the priority-tree entry, the
dictionaries `streams` / `stream_buffers`), `_priority_updated`, `_window_updated`, `_close_stream`, and – because they
share those dictionaries and the priority tree with the reader – `stream_send` (what the applications call),
`_reset_abandoned_response`, `send_task` / `_send_data`.

Python exceptions are values (`Exn`).  Every `try`/`except` of the source is a match against the class list that
`tools/extract.py` reads off the source (`HC.Extracted.C04Sites.*`), class membership being decided with the MRO table of
the installed libraries (`C04Sites.classMro`: e.g. `priority.MissingStreamError` *is a* `KeyError`).  An exception no
clause catches makes the step `.error e`: that is an uncaught exception in the connection handler (or in the send task,
which lives in the same task group) — C04's "internal error".

The libraries are *oracles*: whether a call into h2 / priority raises, and what, is part of the operation (resolved from
the tap log when a real run is replayed; universally quantified in the theorems, restricted by `LibWf`).  Stream objects
are opaque: `stream.handle(..)` of an existing stream does not raise (that is `total_ws` / the type of `Http.handle`), except
for the one thing the streams require of a `Request`: an ASCII path (`streamRequest`).
-/
namespace HC.Proto.H2Recv
open HC.Extracted

/-! ## exception classes -/

inductive Exn where
  | keyError | unboundLocalError | unicodeDecodeError | recursionError | typeError | attributeError
  | prioMissing | prioDuplicate | prioTooMany | prioLoop | prioBadWeight | prioPseudo | prioDeadlock
  | h2Protocol | h2StreamClosed | h2NoSuchStream | h2FlowControl | h2TooManyStreams | h2NoAvailableStreamID | h2FrameTooLarge
  | bufferComplete
deriving Repr, DecidableEq

/-- the qualified class name used by the extractor -/
def Exn.cls : Exn → String
  | .keyError => "KeyError" | .unboundLocalError => "UnboundLocalError" | .unicodeDecodeError => "UnicodeDecodeError"
  | .recursionError => "RecursionError" | .typeError => "TypeError" | .attributeError => "AttributeError"
  | .prioMissing => "priority.MissingStreamError" | .prioDuplicate => "priority.DuplicateStreamError"
  | .prioTooMany => "priority.TooManyStreamsError" | .prioLoop => "priority.PriorityLoop"
  | .prioBadWeight => "priority.BadWeightError" | .prioPseudo => "priority.PseudoStreamError"
  | .prioDeadlock => "priority.DeadlockError"
  | .h2Protocol => "h2.ProtocolError" | .h2StreamClosed => "h2.StreamClosedError" | .h2NoSuchStream => "h2.NoSuchStreamError"
  | .h2FlowControl => "h2.FlowControlError" | .h2TooManyStreams => "h2.TooManyStreamsError"
  | .h2NoAvailableStreamID => "h2.NoAvailableStreamIDError" | .h2FrameTooLarge => "h2.FrameTooLargeError"
  | .bufferComplete => "BufferCompleteError"

/-- the classes an instance belongs to: the MRO of the installed class (hypercorn's own classes have none but themselves) -/
def Exn.mro (e : Exn) : List String := (C04Sites.classMro.lookup e.cls).getD [e.cls]

/-- `except (A, B, …)` at a site catches `e` -/
def catches (site : List String) (e : Exn) : Bool := site.any (fun c => e.mro.contains c)

/-- `e` is one of h2's `ProtocolError`s / one of priority's `PriorityError`s (what those libraries document to raise) -/
def Exn.isH2 (e : Exn) : Bool := e.mro.contains "h2.ProtocolError"
def Exn.isPrio (e : Exn) : Bool := e.mro.contains "priority.PriorityError"

/-- an `except` clause that names a class of `e` catches `e`: no need to know the rest of the clause or of the MRO -/
theorem catches_of_mem {site : List String} {c : String} {e : Exn} (hc : c ∈ site) (h : e.mro.contains c = true) :
    catches site e = true := by
  simp only [catches, List.any_eq_true]
  exact ⟨c, hc, h⟩

/-- an exception is an instance of its own class: every MRO of the extracted table begins with the class itself (the one
    fact about the table as a whole that is used) -/
theorem mro_self (e : Exn) : e.mro.contains e.cls = true := by
  have head : C04Sites.classMro.all (fun p => p.2.head? == some p.1) = true := by simp [C04Sites.classMro]
  unfold Exn.mro
  cases h : C04Sites.classMro.lookup e.cls with
  | none => simp
  | some l =>
    obtain ⟨l₁, l₂, ht, _⟩ := List.lookup_eq_some_iff.mp h
    have := eq_of_beq (List.all_eq_true.mp head (e.cls, l) (by rw [ht]; simp))
    simp only [Option.getD_some, List.contains_eq_mem, decide_eq_true_eq]
    exact List.mem_of_mem_head? this

/-- … in particular a clause that names the class of `e` itself -/
theorem catches_own {site : List String} {e : Exn} (h : e.cls ∈ site) : catches site e = true :=
  catches_of_mem h (mro_self e)

/-! ## state -/

structure St where
  streams : List Nat := []                 -- keys of `self.streams`
  buffers : List Nat := []                 -- keys of `self.stream_buffers`
  prio : List (Nat × Bool) := []           -- the priority tree (library state): member ↦ active (unblocked)
  kar : Nat := 0                           -- `self.keep_alive_requests`
  terminated : Bool := false               -- `self.context.terminated.is_set()`
  closed : Bool := false                   -- `self.closed`
deriving Repr, DecidableEq

/-- Python dictionaries keyed by stream id, as key lists: assignment and deletion -/
def keysAdd (l : List Nat) (sid : Nat) : List Nat := if l.contains sid then l else l ++ [sid]
def keysDel (l : List Nat) (sid : Nat) : List Nat := l.filter (· != sid)

theorem mem_keysDel (l : List Nat) (sid x : Nat) : x ∈ keysDel l sid ↔ x ∈ l ∧ x ≠ sid := by
  simp [keysDel]

theorem mem_keysAdd (l : List Nat) (sid x : Nat) : x ∈ keysAdd l sid ↔ x ∈ l ∨ x = sid := by
  unfold keysAdd
  split
  · next h => exact ⟨Or.inl, fun h1 => h1.elim id fun h2 => h2 ▸ List.contains_iff_mem.mp h⟩
  · simp

def pmem (p : List (Nat × Bool)) (sid : Nat) : Bool := p.any (·.1 == sid)
def St.inPrio (s : St) (sid : Nat) : Bool := pmem s.prio sid
def St.isActive (s : St) (sid : Nat) : Bool := s.prio.any (fun p => p.1 == sid && p.2)
def prioSet (p : List (Nat × Bool)) (sid : Nat) (a : Bool) : List (Nat × Bool) := p.map (fun q => if q.1 == sid then (sid, a) else q)
def prioErase (p : List (Nat × Bool)) (sid : Nat) : List (Nat × Bool) := p.filter (fun q => q.1 != sid)
/-- a successful `insert_stream(sid, depends_on=dep)`: the stream, and a parent the tree did not know (`_get_or_insert_parent`,
    inserted blocked) -/
def prioInsert (p : List (Nat × Bool)) (sid dep : Nat) : List (Nat × Bool) :=
  let p1 := if dep != 0 && !(pmem p dep) then p ++ [(dep, false)] else p
  p1 ++ [(sid, true)]
/-- a successful `reprioritize(sid, depends_on=dep)`: membership grows by an unknown parent only -/
def prioParent (p : List (Nat × Bool)) (dep : Nat) : List (Nat × Bool) :=
  if dep != 0 && !(pmem p dep) then p ++ [(dep, false)] else p

/-! ## outputs -/

inductive Out where
  | toStream (sid : Nat) (what : String)                  -- `stream.handle(<what>)`: "request" | "body" | "endBody" | "streamClosed"
  | h2call (name : String) (sid : Nat) (raised : Bool)    -- a sending call into h2 for a stream (`send_headers`, `reset_stream`, `acknowledge`, …)
  | connCall (name : String) (raised : Bool)              -- a connection-level call into h2 (`close_connection`, `update_settings`)
  | prioCall (name : String) (sid : Nat) (raised : Option String)
  | spawnStream (sid : Nat) (ws : Bool)                   -- `self.streams[sid] = WSStream(…) | HTTPStream(…)`
  | flush
  | hasData
  | upClosed
  | upUpdated (idle : Option Bool)                        -- `some true`: no stream left; `none`: depends on the stream objects
deriving Repr, DecidableEq

/-- the stream an output belongs to (`none`: connection level) -/
def Out.tag : Out → Option Nat
  | .toStream sid _ => some sid
  | .h2call _ sid _ => some sid
  | .prioCall _ sid _ => some sid
  | .spawnStream sid _ => some sid
  | _ => none

/-! ## library calls with oracle outcomes -/

abbrev R := Except Exn (St × List Out)

/-- `self.priority.block(sid)` / `unblock(sid)` -/
def prioBlock (s : St) (sid : Nat) (active : Bool) : Except Exn (St × List Out) :=
  let name := if active then "unblock" else "block"
  if s.inPrio sid then .ok ({ s with prio := prioSet s.prio sid active }, [.prioCall name sid none])
  else .error .prioMissing

def prioRemove (s : St) (sid : Nat) : Except Exn (St × List Out) :=
  if s.inPrio sid then .ok ({ s with prio := prioErase s.prio sid }, [.prioCall "remove_stream" sid none])
  else .error .prioMissing

/-! ## the request as the glue sees it -/

structure Req where
  sid : Nat
  hasMethod : Bool := true          -- a `:method` pseudo header is present (h2 validates this)
  methodAscii : Bool := true
  isConnect : Bool := false         -- `method.upper() == "CONNECT"`
  hasPath : Bool := true            -- h2: absent only for an ordinary CONNECT
  pathAscii : Bool := true
deriving Repr, DecidableEq

/-- what `HTTPStream.handle(Request)` / `WSStream.handle(Request)` require: `path.decode("ascii")` -/
def streamRequest (r : Req) : Except Exn Unit := if r.pathAscii then .ok () else .error .unicodeDecodeError

/-- `_send_error_response(stream_id, status)`: `send_headers` inside `try … except <C04Sites.h2ErrorResponse>`, then `_flush` -/
def errorResponse (s : St) (sid : Nat) (lib : Option Exn) : R :=
  match lib with
  | none => .ok (s, [.h2call "send_headers" sid false, .flush])
  | some e => if catches C04Sites.h2ErrorResponse e then .ok (s, [.h2call "send_headers" sid true]) else .error e

theorem errorResponse_inv {s s' : St} {sid : Nat} {lib : Option Exn} {o' : List Out}
    (h : errorResponse s sid lib = .ok (s', o')) :
    s' = s ∧ (o' = [.h2call "send_headers" sid false, .flush] ∨ o' = [.h2call "send_headers" sid true]) := by
  unfold errorResponse at h
  split at h
  · cases h; exact ⟨rfl, .inl rfl⟩
  · split at h <;> cases h
    exact ⟨rfl, .inr rfl⟩

/-- the header loop of `_create_stream`: decodes, leaves `method` / `raw_path` unbound when the header is absent.
    Returns `some rejected?`; `.error` is an exception escaping the loop. -/
def decodeHeaders (r : Req) : Except Exn Bool :=
  -- `method = value.decode("ascii").upper()`; `raw_path = value; value.decode("ascii")` (when the source checks the path here)
  let bad := (r.hasMethod && !r.methodAscii) || (C04Sites.h2CreateDecodeChecksPath && r.hasPath && !r.pathAscii)
  if bad then
    if catches C04Sites.h2CreateDecode .unicodeDecodeError && C04Sites.h2CreateDecodeReturns then .ok true
    else .error .unicodeDecodeError
  else .ok false

/-- the local `enter` of `createStream` (entering the priority tree), named so that what it leaves alone can be stated -/
def createEnter (s : St) (r : Req) (ins : Option Exn) : Except Exn (Option (St × List Out)) :=
  match ins with
  | none =>
    if s.inPrio r.sid then .error .prioDuplicate
    else .ok (some ({ s with prio := prioSet (prioInsert s.prio r.sid 0) r.sid false },
                    [.prioCall "insert_stream" r.sid none, .prioCall "block" r.sid none]))
  | some e =>
    if catches C04Sites.h2CreateInsertPass e then .ok (some (s, [.prioCall "insert_stream" r.sid (some e.cls)]))
    else if catches C04Sites.h2CreateInsertRefuse e then .ok none
    else .error e

/-- the local `create` of `createStream` (the stream object is created and handed the request), named for the same reason -/
def createNew (r : Req) (s : St) (o : List Out) : R :=
  if !r.hasPath then .error .unboundLocalError else
  match streamRequest r with
  | .error e => .error e
  | .ok () => .ok ({ s with streams := keysAdd s.streams r.sid, buffers := keysAdd s.buffers r.sid, kar := s.kar + 1 },
                   o ++ [.spawnStream r.sid r.isConnect, .toStream r.sid "request"])

/-- `_create_stream(request)`.  `ins`: outcome of `priority.insert_stream(sid)`; `lib`: outcome of the one h2 sending
    call made when the request is answered / refused by the protocol itself. -/
def createStream (s : St) (r : Req) (ins lib : Option Exn) : R := do
  let rejected ← decodeHeaders r
  if rejected then errorResponse s r.sid lib else
  -- `if raw_path is None: …; return`
  if !r.hasPath && C04Sites.h2CreatePathDefault && C04Sites.h2CreatePathGuard then
    (if C04Sites.h2CreatePathGuardAnswers then errorResponse s r.sid lib else .ok (s, []))
  else
  -- `if method == "CONNECT"` reads `method`
  if !r.hasMethod then .error .unboundLocalError else
  -- the priority tree is entered (before or after the stream objects, as the source has it)
  let enter (s : St) : Except Exn (Option (St × List Out)) :=
    match ins with
    | none =>
      if s.inPrio r.sid then .error .prioDuplicate     -- (not a library behaviour: excluded by `LibWf`)
      else .ok (some ({ s with prio := prioSet (prioInsert s.prio r.sid 0) r.sid false },
                      [.prioCall "insert_stream" r.sid none, .prioCall "block" r.sid none]))
    | some e =>
      if catches C04Sites.h2CreateInsertPass e then .ok (some (s, [.prioCall "insert_stream" r.sid (some e.cls)]))
      else if catches C04Sites.h2CreateInsertRefuse e then .ok none
      else .error e
  let refuse (s : St) : R :=
    -- `reset_stream(REFUSED_STREAM)` inside `try … except <C04Sites.h2CreateRefuse>: return`, then `_flush`
    match lib with
    | none => .ok (s, [.prioCall "insert_stream" r.sid (some Exn.prioTooMany.cls), .h2call "reset_stream" r.sid false, .flush])
    | some e => if catches C04Sites.h2CreateRefuse e then .ok (s, [.prioCall "insert_stream" r.sid (some Exn.prioTooMany.cls), .h2call "reset_stream" r.sid true])
                else .error e
  let create (s : St) (o : List Out) : R := do
    -- `self.streams[sid] = …; self.stream_buffers[sid] = …; await stream.handle(Request(…, raw_path=raw_path))`
    if !r.hasPath then .error .unboundLocalError else
    let s1 := { s with streams := keysAdd s.streams r.sid, buffers := keysAdd s.buffers r.sid }
    match streamRequest r with
    | .error e => .error e
    | .ok () => .ok ({ s1 with kar := s1.kar + 1 }, o ++ [.spawnStream r.sid r.isConnect, .toStream r.sid "request"])
  if C04Sites.h2CreateInsertFirst then
    match ← enter s with
    | none => refuse s
    | some (s1, o1) => create s1 o1
  else
    -- (the other order: objects first, then the tree; a refusal then cannot be undone)
    match ← enter s with
    | none => refuse { s with streams := keysAdd s.streams r.sid, buffers := keysAdd s.buffers r.sid }
    | some (s1, o1) => create s1 o1

/-- `createStream` with the extracted flags of the source as it is put in: the decode checks answer by themselves, so does
    the guard for an absent `:path`, and the tree is entered before the stream objects exist -/
theorem createStream_eq (s : St) (r : Req) (ins lib : Option Exn) : createStream s r ins lib =
    if (r.hasMethod && !r.methodAscii || r.hasPath && !r.pathAscii) || !r.hasPath then errorResponse s r.sid lib
    else if !r.hasMethod then .error .unboundLocalError
    else createEnter s r ins >>= fun
      | none =>
        match lib with
        | none => .ok (s, [.prioCall "insert_stream" r.sid (some Exn.prioTooMany.cls), .h2call "reset_stream" r.sid false, .flush])
        | some e =>
          if catches C04Sites.h2CreateRefuse e then
            .ok (s, [.prioCall "insert_stream" r.sid (some Exn.prioTooMany.cls), .h2call "reset_stream" r.sid true])
          else .error e
      | some (s1, o1) => createNew r s1 o1 := by
  have hdec : catches C04Sites.h2CreateDecode .unicodeDecodeError = true :=
    catches_own (by simp [C04Sites.h2CreateDecode, Exn.cls])
  unfold createStream decodeHeaders
  simp only [C04Sites.h2CreateDecodeChecksPath, C04Sites.h2CreateDecodeReturns, C04Sites.h2CreatePathDefault,
    C04Sites.h2CreatePathGuard, C04Sites.h2CreatePathGuardAnswers, C04Sites.h2CreateInsertFirst, hdec, Bool.true_and,
    Bool.and_true, if_true]
  obtain ⟨sid, hasMethod, methodAscii, isConnect, hasPath, pathAscii⟩ := r
  cases hasMethod <;> cases methodAscii <;> cases hasPath <;> cases pathAscii <;> rfl

/-- `_close_stream(sid)` -/
def closeStream (s : St) (sid : Nat) : St × List Out :=
  if s.streams.contains sid then ({ s with streams := keysDel s.streams sid }, [.toStream sid "streamClosed", .hasData]) else (s, [])

/-- `_window_updated(stream_id)`: `priority.unblock` for the stream / for every buffered stream, outside any `try` -/
def unblockAll : St → List Nat → List Out → R
  | s, [], o => .ok (s, o)
  | s, sid :: rest, o =>
    match prioBlock s sid true with
    | .error e => .error e
    | .ok (s1, o1) => unblockAll s1 rest (o ++ o1)

def windowUpdated (s : St) (sid : Nat) : R :=
  if sid == 0 then
    match unblockAll s s.buffers [] with
    | .error e => .error e
    | .ok (s1, o) => .ok (s1, o ++ [.hasData])
  else if s.buffers.contains sid then
    match prioBlock s sid true with
    | .error e => .error e
    | .ok (s1, o) => .ok (s1, o ++ [.hasData])
  else .ok (s, [.hasData])

/-! ## h2 events -/

inductive Ev where
  | request (r : Req) (ins lib : Option Exn)
  | data (sid : Nat)
  | ended (sid : Nat)
  | reset (sid : Nat)
  | window (sid : Nat)                                   -- WindowUpdated (0 = the connection)
  | priority (sid dep : Nat) (rep ins : Option Exn) (parentOnError : Bool)
      -- `rep`: outcome of `reprioritize`; `ins`: outcome of the fallback `insert_stream`; `parentOnError`: the tree inserted
      -- the unknown parent before it raised
  | settings (initialWindow : Bool)
  | terminated                                            -- ConnectionTerminated (the client's GOAWAY)
  | other                                                 -- every other event kind: no branch
deriving Repr, DecidableEq

/-- `_priority_updated(event)` -/
def priorityUpdated (s : St) (sid dep : Nat) (rep ins : Option Exn) (parentOnError : Bool) : R :=
  let withParent (s : St) : St := if parentOnError then { s with prio := prioParent s.prio dep } else s
  -- the outer `try … except <C04Sites.h2PrioOuter>: pass`
  let outer (e : Exn) (s : St) (o : List Out) : R :=
    if catches C04Sites.h2PrioOuter e then .ok (withParent s, o ++ [.hasData]) else .error e
  match rep with
  | none =>
    if s.inPrio sid then .ok ({ s with prio := prioParent s.prio dep }, [.prioCall "reprioritize" sid none, .hasData])
    else outer .prioMissing s []                          -- (not a library behaviour: excluded by `LibWf`)
  | some e =>
    let o0 := [Out.prioCall "reprioritize" sid (some e.cls)]
    if catches C04Sites.h2PrioReprioritize e then
      -- "Received PRIORITY frame before HEADERS frame": `insert_stream(…)`, `block(sid)`
      match ins with
      | none =>
        let s1 := { s with prio := prioSet (prioInsert s.prio sid dep) sid false }
        .ok (s1, o0 ++ [.prioCall "insert_stream" sid none, .prioCall "block" sid none, .hasData])
      | some e2 => outer e2 s (o0 ++ [.prioCall "insert_stream" sid (some e2.cls)])
    else outer e s o0

/-- one iteration of the `for event in events` loop of `_handle_events` -/
def onEvent (kaMax : Nat) (s : St) : Ev → R
  | .request r ins lib => do
    let (s1, o1) ←
      if s.terminated then
        -- `reset_stream`, `update_settings` inside `try … except <C04Sites.h2EventsTerminated>: pass`
        match lib with
        | none => pure (s, [Out.h2call "reset_stream" r.sid false, .connCall "update_settings" false])
        | some e => if catches C04Sites.h2EventsTerminated e then pure (s, [Out.h2call "reset_stream" r.sid true]) else throw e
      else do
        let (s1, o1) ← createStream s r ins lib
        pure (s1, o1 ++ [.upUpdated (if s1.streams.isEmpty then some true else none)])
    -- `if self.keep_alive_requests > self.config.keep_alive_max_requests: close_connection()`
    pure (s1, o1 ++ (if s1.kar > kaMax then [.connCall "close_connection" false] else []))
  | .data sid =>
    -- `await self.streams[sid].handle(Body…)` inside `try … except <C04Sites.h2EventsData>: pass`, then acknowledge
    if s.streams.contains sid then .ok (s, [.toStream sid "body", .h2call "acknowledge_received_data" sid false])
    else if catches C04Sites.h2EventsData .keyError then .ok (s, [.h2call "acknowledge_received_data" sid false])
    else .error .keyError
  | .ended sid =>
    if s.streams.contains sid then .ok (s, [.toStream sid "endBody"])
    else if catches C04Sites.h2EventsEnded .keyError then .ok (s, [])
    else .error .keyError
  | .reset sid =>
    let (s1, o1) := closeStream s sid
    match windowUpdated s1 sid with
    | .error e => .error e
    | .ok (s2, o2) => .ok (s2, o1 ++ o2)
  | .window sid => windowUpdated s sid
  | .priority sid dep rep ins pe => priorityUpdated s sid dep rep ins pe
  | .settings iw => if iw then windowUpdated s 0 else .ok (s, [])
  | .terminated => .ok (s, [.upClosed])
  | .other => .ok (s, [])

theorem onEvent_data (kaMax : Nat) (s : St) (j : Nat) : onEvent kaMax s (.data j) =
    .ok (s, (if s.streams.contains j then [.toStream j "body"] else []) ++ [.h2call "acknowledge_received_data" j false]) := by
  simp only [onEvent, if_pos (catches_own (site := C04Sites.h2EventsData) (e := .keyError) (by simp [C04Sites.h2EventsData, Exn.cls]))]
  split <;> rfl

theorem onEvent_ended (kaMax : Nat) (s : St) (j : Nat) : onEvent kaMax s (.ended j) =
    .ok (s, if s.streams.contains j then [.toStream j "endBody"] else []) := by
  simp only [onEvent, if_pos (catches_own (site := C04Sites.h2EventsEnded) (e := .keyError) (by simp [C04Sites.h2EventsEnded, Exn.cls]))]
  split <;> rfl

/-! ## what the applications and the send task do to the shared state -/

structure SendOracle where
  window : Option Exn := none        -- `local_flow_control_window(sid)` raised
  dataEmpty : Bool := false          -- nothing could be popped: `priority.block(sid)`
  send : Option Exn := none          -- `send_data` raised
  complete : Bool := false           -- the buffer is complete (and empty)
  endStream : Option Exn := none     -- `end_stream` raised
deriving Repr, DecidableEq

/-- a protected block: the state reached and the calls made when it ended, and the exception that ended it (if any) -/
abbrev Partial := St × List Out × Option Exn

def raisedName : Option Exn → Bool
  | none => false
  | some _ => true

/-- sequencing inside a protected block (the `match` on the error component that `sendBody` and `streamBody` write out):
    `k` continues from where `p` ended, unless an exception ended `p` -/
def andThen (p : Partial) (k : St → List Out → Partial) : Partial :=
  match p with
  | (s1, o1, some e) => (s1, o1, some e)
  | (s1, o1, none) => k s1 o1

theorem andThen_cases (p : Partial) (k : St → List Out → Partial) :
    (∃ e, p.2.2 = some e ∧ andThen p k = p) ∨ (p.2.2 = none ∧ andThen p k = k p.1 p.2.1) := by
  obtain ⟨s1, o1, _ | e⟩ := p
  · exact .inr ⟨rfl, rfl⟩
  · exact .inl ⟨e, rfl, rfl⟩

/-- the first half of `sendBody` (`send_data; flush`, or `priority.block(sid)`), named so that each half has its own lemmas -/
def sendFirst (s : St) (sid : Nat) (o : SendOracle) : Partial :=
  if o.dataEmpty then
    (if s.inPrio sid then ({ s with prio := prioSet s.prio sid false }, [.prioCall "block" sid none], none)
     else (s, [.prioCall "block" sid (some Exn.prioMissing.cls)], some .prioMissing))
  else match o.send with
    | some e => (s, [.h2call "send_data" sid true], some e)
    | none => (s, [.h2call "send_data" sid false, .flush], none)

/-- the second half of `sendBody`, from the state `s1` and the calls `o1` the first half left: `end_stream` and the removal of
    buffer and tree entry (`go`: the buffer is complete and the connection not closed) -/
def sendFinish (go : Bool) (sid : Nat) (o : SendOracle) (s1 : St) (o1 : List Out) : Partial :=
  if go then
    match o.endStream with
    | some e => (s1, o1 ++ [.h2call "end_stream" sid true], some e)
    | none =>
      let s2 := { s1 with buffers := keysDel s1.buffers sid }
      if s2.inPrio sid then
        ({ s2 with prio := prioErase s2.prio sid }, o1 ++ [.h2call "end_stream" sid false, .flush, .prioCall "remove_stream" sid none], none)
      else (s2, o1 ++ [.h2call "end_stream" sid false, .flush, .prioCall "remove_stream" sid (some Exn.prioMissing.cls)], some .prioMissing)
  else (s1, o1, none)

/-- the protected body of `_send_data(sid)` -/
def sendBody (s : St) (sid : Nat) (o : SendOracle) : Partial :=
  match o.window with
  | some e => (s, [], some e)
  | none =>
    if !s.buffers.contains sid then (s, [], some .keyError) else
    -- `if data: send_data; flush  else: priority.block(sid)`
    let first : Partial :=
      if o.dataEmpty then
        (if s.inPrio sid then ({ s with prio := prioSet s.prio sid false }, [.prioCall "block" sid none], none)
         else (s, [.prioCall "block" sid (some Exn.prioMissing.cls)], some .prioMissing))
      else match o.send with
        | some e => (s, [.h2call "send_data" sid true], some e)
        | none => (s, [.h2call "send_data" sid false, .flush], none)
    match first with
    | (s1, o1, some e) => (s1, o1, some e)
    | (s1, o1, none) =>
      -- `if self.stream_buffers[sid].complete and not self.closed`
      if o.complete && !s.closed then
        match o.endStream with
        | some e => (s1, o1 ++ [.h2call "end_stream" sid true], some e)
        | none =>
          let s2 := { s1 with buffers := keysDel s1.buffers sid }
          if s2.inPrio sid then
            ({ s2 with prio := prioErase s2.prio sid }, o1 ++ [.h2call "end_stream" sid false, .flush, .prioCall "remove_stream" sid none], none)
          else (s2, o1 ++ [.h2call "end_stream" sid false, .flush, .prioCall "remove_stream" sid (some Exn.prioMissing.cls)], some .prioMissing)
      else (s1, o1, none)

theorem sendBody_eq (s : St) (sid : Nat) (o : SendOracle) : sendBody s sid o =
    match o.window with
    | some e => (s, [], some e)
    | none =>
      if !s.buffers.contains sid then (s, [], some .keyError) else
      andThen (sendFirst s sid o) (sendFinish (o.complete && !s.closed) sid o) := rfl

/-- `try: <p> except <site>: <handler>`.  `sendData` and `streamSend` write this `match` out around their bodies
    (`sendData_eq_protect`, `streamSend_eq_protect`). -/
def protect (site : List String) (p : Partial) (handler : St → List Out → R) : R :=
  match p with
  | (s1, o1, none) => .ok (s1, o1)
  | (s1, o1, some e) => if catches site e then handler s1 o1 else .error e

theorem protect_inv {site : List String} {p : Partial} {handler : St → List Out → R} {s' : St} {o' : List Out}
    (h : protect site p handler = .ok (s', o')) : (s' = p.1 ∧ o' = p.2.1) ∨ handler p.1 p.2.1 = .ok (s', o') := by
  obtain ⟨s1, o1, _ | e⟩ := p
  · cases h; exact .inl ⟨rfl, rfl⟩
  · simp only [protect] at h
    split at h
    · exact .inr h
    · cases h

/-- the `except` branch of `_send_data`: `stream_buffers.pop(sid, None)`; `remove_stream(sid)` inside
    `try … except <C04Sites.h2SendDataCleanup>`.  When the tree does not know the stream it just scheduled, the handler
    starts a fresh tree with every buffered stream in it (`insert_stream` leaves them unblocked). -/
def sendCleanup (s : St) (sid : Nat) (o0 : List Out) : R :=
  let s1 := { s with buffers := keysDel s.buffers sid }
  if s1.inPrio sid then .ok ({ s1 with prio := prioErase s1.prio sid }, o0 ++ [.prioCall "remove_stream" sid none])
  else if catches C04Sites.h2SendDataCleanup .prioMissing then
    .ok ({ s1 with prio := s1.buffers.map (fun b => (b, true)) },
         o0 ++ [.prioCall "remove_stream" sid (some Exn.prioMissing.cls)] ++ s1.buffers.map (fun b => Out.prioCall "insert_stream" b none))
  else .error .prioMissing

/-- `_send_data(sid)` (one atomic action; the awaits inside it are not interleaved here) -/
def sendData (s : St) (sid : Nat) (o : SendOracle) : R :=
  match sendBody s sid o with
  | (s1, o1, none) => .ok (s1, o1)
  | (s1, o1, some e) => if catches C04Sites.h2SendData e then sendCleanup s1 sid o1 else .error e

theorem sendData_eq_protect (s : St) (sid : Nat) (o : SendOracle) :
    sendData s sid o = protect C04Sites.h2SendData (sendBody s sid o) (sendCleanup · sid ·) := rfl

inductive NextRes where
  | deadlock
  | stream (sid : Nat) (o : SendOracle)
  | raised (e : Exn)
deriving Repr, DecidableEq

/-- one iteration of `send_task`: `next(self.priority)` inside `try … except <C04Sites.h2SendTaskNext>` -/
def sendTask (s : St) : NextRes → R
  | .deadlock => if catches C04Sites.h2SendTaskNext .prioDeadlock then .ok (s, []) else .error .prioDeadlock
  | .raised e => if catches C04Sites.h2SendTaskNext e then .ok (s, []) else .error e
  | .stream sid o => sendData s sid o

inductive AppOp where
  | headers (lib : Option Exn)                 -- Response / InformationalResponse / Trailers: `send_headers`
  | body (push : Option Exn)                   -- Body / Data: `unblock`, `stream_buffers[sid].push`
  | endBody                                    -- EndBody / EndData: `set_complete`, `unblock`
  | streamClosed (abandon : Bool) (lib : Option Exn)
      -- StreamClosed; `abandon`: `_reset_abandoned_response` finds an incomplete HTTP response; `lib`: its `reset_stream`
deriving Repr, DecidableEq

/-- `_reset_abandoned_response(sid)` (only called with `abandon`: an incomplete response of an HTTP stream): `reset_stream`
    inside `try … except <C04Sites.h2AbandonReset>: return`, then the buffer and the tree entry are dropped -/
def resetAbandoned (s : St) (sid : Nat) (lib : Option Exn) : Partial :=
  match lib with
  | some e => if catches C04Sites.h2AbandonReset e then (s, [.h2call "reset_stream" sid true], none) else (s, [.h2call "reset_stream" sid true], some e)
  | none =>
    let s1 := { s with buffers := keysDel s.buffers sid }
    if s1.inPrio sid then ({ s1 with prio := prioErase s1.prio sid }, [.h2call "reset_stream" sid false, .flush, .prioCall "remove_stream" sid none], none)
    else if catches C04Sites.h2AbandonRemove .prioMissing then
      (s1, [.h2call "reset_stream" sid false, .flush, .prioCall "remove_stream" sid (some Exn.prioMissing.cls)], none)
    else (s1, [.h2call "reset_stream" sid false, .flush, .prioCall "remove_stream" sid (some Exn.prioMissing.cls)], some .prioMissing)

/-- `priority.unblock(sid)` as a protected step -/
def unblockP (s : St) (sid : Nat) : Partial :=
  if s.inPrio sid then ({ s with prio := prioSet s.prio sid true }, [.prioCall "unblock" sid none], none)
  else (s, [.prioCall "unblock" sid (some Exn.prioMissing.cls)], some .prioMissing)

/-- the tail of `streamBody`'s `StreamClosed` case (the connection-level calls after `_close_stream`, from the state it left),
    named so that `streamBody_closed` can be stated -/
def closeTail (s2 : St) : List Out :=
  (if s2.streams.isEmpty && s2.terminated then [.connCall "close_connection" false, .flush] else []) ++
    (if s2.closed then [] else [.upUpdated (if s2.streams.isEmpty then some true else none)])

/-- the protected body of `stream_send(event)` for stream `sid` -/
def streamBody (s : St) (sid : Nat) : AppOp → Partial
  | .headers lib =>
    match lib with
    | none => (s, [.h2call "send_headers" sid false, .flush], none)
    | some e => (s, [.h2call "send_headers" sid true], some e)
  | .body push =>
    -- `priority.unblock(sid)`, `has_data.set()`, `stream_buffers[sid].push(data)`
    match unblockP s sid with
    | (s1, o1, some e) => (s1, o1, some e)
    | (s1, o1, none) =>
      if !s1.buffers.contains sid then (s1, o1 ++ [.hasData], some .keyError) else
      match push with
      | some e => (s1, o1 ++ [.hasData], some e)
      | none => (s1, o1 ++ [.hasData], none)
  | .endBody =>
    -- `stream_buffers[sid].set_complete()`, `priority.unblock(sid)`
    if !s.buffers.contains sid then (s, [], some .keyError) else
    match unblockP s sid with
    | (s1, o1, some e) => (s1, o1, some e)
    | (s1, o1, none) => (s1, o1 ++ [.hasData], none)
  | .streamClosed abandon lib =>
    -- `if event.stream_id not in self.streams: return` (already closed: reset by the client, or the connection closed)
    if !s.streams.contains sid then (s, [], none) else
    match (if abandon && s.buffers.contains sid && s.streams.contains sid then resetAbandoned s sid lib else (s, [], none)) with
    | (s1, o1, some e) => (s1, o1, some e)
    | (s1, o1, none) =>
      let s2 := (closeStream s1 sid).1
      let idle := s2.streams.isEmpty
      (s2, o1 ++ (closeStream s1 sid).2 ++ (if idle && s2.terminated then [.connCall "close_connection" false, .flush] else [])
            ++ (if s2.closed then [] else [.upUpdated (if idle then some true else none)]), none)

theorem streamBody_body (s : St) (sid : Nat) (push : Option Exn) : streamBody s sid (.body push) =
    andThen (unblockP s sid) fun s1 o1 =>
      if !s1.buffers.contains sid then (s1, o1 ++ [.hasData], some .keyError) else (s1, o1 ++ [.hasData], push) := by
  cases push <;> rfl

theorem streamBody_endBody (s : St) (sid : Nat) : streamBody s sid .endBody =
    if !s.buffers.contains sid then (s, [], some .keyError) else
    andThen (unblockP s sid) fun s1 o1 => (s1, o1 ++ [.hasData], none) := rfl

theorem streamBody_closed (s : St) (sid : Nat) (abandon : Bool) (lib : Option Exn) :
    streamBody s sid (.streamClosed abandon lib) =
      if !s.streams.contains sid then (s, [], none) else
      andThen (if abandon && s.buffers.contains sid && s.streams.contains sid then resetAbandoned s sid lib else (s, [], none))
        fun s1 o1 => ((closeStream s1 sid).1, o1 ++ (closeStream s1 sid).2 ++ closeTail (closeStream s1 sid).1, none) := by
  simp only [streamBody, closeTail, List.append_assoc]; rfl

/-- `stream_send(event)` for stream `sid`: the body inside `try … except <C04Sites.h2StreamSend>: return`.
    What the body did before it raised stays done. -/
def streamSend (s : St) (sid : Nat) (op : AppOp) : R :=
  match streamBody s sid op with
  | (s1, o1, none) => .ok (s1, o1)
  | (s1, o1, some e) => if catches C04Sites.h2StreamSend e then .ok (s1, o1) else .error e

theorem streamSend_eq_protect (s : St) (sid : Nat) (op : AppOp) :
    streamSend s sid op = protect C04Sites.h2StreamSend (streamBody s sid op) fun s1 o1 => .ok (s1, o1) := rfl

/-! ## operations and runs -/

inductive Op where
  | ev (e : Ev)                        -- one event of the list `receive_data` returned
  | batchEnd                           -- the `_flush()` that ends `_handle_events`
  | recvRaised (e : Exn)               -- `receive_data` raised
  | closed                             -- `handle(Closed)`
  | terminate                          -- `context.terminated` gets set
  | app (sid : Nat) (op : AppOp)       -- an application (or a stream on its behalf) calls `stream_send`
  | sendTask (n : NextRes)             -- the send task runs one iteration
deriving Repr, DecidableEq

def step (kaMax : Nat) (s : St) : Op → R
  | .ev e => onEvent kaMax s e
  | .batchEnd => .ok (s, [.flush])
  | .recvRaised e =>
    -- `except <C04Sites.h2Handle>: await self._flush(); await self.send(Closed())`
    if catches C04Sites.h2Handle e then .ok (s, [.flush, .upClosed]) else .error e
  | .closed =>
    -- every stream is closed; the buffers are closed (emptied, completed) but stay in the dictionary
    .ok ({ s with closed := true, streams := [] }, s.streams.flatMap (fun sid => [Out.toStream sid "streamClosed", .hasData]) ++ [.hasData])
  | .terminate => .ok ({ s with terminated := true }, [])
  | .app sid op => streamSend s sid op
  | .sendTask n => sendTask s n

def run (kaMax : Nat) : St → List Op → R
  | s, [] => .ok (s, [])
  | s, op :: rest =>
    match step kaMax s op with
    | .error e => .error e
    | .ok (s1, o1) =>
      match run kaMax s1 rest with
      | .error e => .error e
      | .ok (s2, o2) => .ok (s2, o1 ++ o2)

theorem run_cons_ok {kaMax : Nat} {s s' : St} {op : Op} {rest : List Op} {o : List Out}
    (h : run kaMax s (op :: rest) = .ok (s', o)) :
    ∃ s1 o1 o2, step kaMax s op = .ok (s1, o1) ∧ run kaMax s1 rest = .ok (s', o2) ∧ o = o1 ++ o2 := by
  simp only [run] at h
  split at h
  · cases h
  · next s1 o1 h1 =>
    split at h
    · cases h
    · next s2 o2 h2 => cases h; exact ⟨s1, o1, o2, h1, h2, rfl⟩

/-! ## library well-formedness: what h2 and priority can answer in a given state -/

def optAll (p : Exn → Bool) : Option Exn → Bool
  | none => true
  | some e => p e

/-- h2 (4.x) emits `RequestReceived` only for a header block with `:method`, and with `:path` unless the method is
    exactly `CONNECT` without `:protocol` (`_check_pseudo_header_field_acceptability`) -/
def Req.wf (r : Req) : Bool := r.hasMethod && (r.hasPath || r.isConnect)

def Ev.wf (s : St) : Ev → Bool
  | .request r ins lib =>
    r.wf && optAll Exn.isH2 lib &&
    -- `insert_stream(sid)` (no dependency, default weight): `DuplicateStreamError` iff present, else `TooManyStreamsError` or success
    (match ins with
     | none => !s.inPrio r.sid
     | some e => (e == .prioDuplicate && s.inPrio r.sid) || (e == .prioTooMany && !s.inPrio r.sid))
  | .priority sid _ rep ins _ =>
    -- `reprioritize`: `MissingStreamError` iff absent; any other refusal is a `PriorityError`
    (match rep with
     | none => s.inPrio sid
     | some e => e.isPrio && ((e == .prioMissing) == !s.inPrio sid)) &&
    optAll (fun e => e.isPrio && e != .prioMissing) ins
  | _ => true

def SendOracle.wf (o : SendOracle) : Bool :=
  optAll Exn.isH2 o.window && optAll Exn.isH2 o.send && optAll Exn.isH2 o.endStream

def AppOp.wf : AppOp → Bool
  | .headers lib => optAll Exn.isH2 lib
  | .body push => optAll (· == .bufferComplete) push
  | .endBody => true
  | .streamClosed _ lib => optAll Exn.isH2 lib

/-- `allowRecursion`: the installed priority library recurses once per tree level in `next()`; a dependency chain of
    about a thousand blocked streams (built from PRIORITY frames) makes it raise `RecursionError` (finding F44) -/
def NextRes.wf (allowRecursion : Bool) (s : St) : NextRes → Bool
  | .deadlock => true
  | .stream sid o => s.isActive sid && o.wf
  | .raised e => allowRecursion && e == .recursionError

def Op.wf (allowRecursion : Bool) (s : St) : Op → Bool
  | .ev e => e.wf s
  | .recvRaised e => e.isH2
  | .app _ op => op.wf
  | .sendTask n => n.wf allowRecursion s
  | _ => true

/-- the whole run is one the libraries can produce -/
def LibWf (allowRecursion : Bool) (kaMax : Nat) : St → List Op → Prop
  | _, [] => True
  | s, op :: rest =>
    op.wf allowRecursion s = true ∧
    (∀ s1 o1, step kaMax s op = .ok (s1, o1) → LibWf allowRecursion kaMax s1 rest)

/-- executable form of `LibWf` (used by the driver on tap logs and by `decide` in examples) -/
def libWfB (allowRecursion : Bool) (kaMax : Nat) : St → List Op → Bool
  | _, [] => true
  | s, op :: rest =>
    op.wf allowRecursion s &&
    (match step kaMax s op with
     | .ok (s1, _) => libWfB allowRecursion kaMax s1 rest
     | .error _ => true)

theorem libWfB_sound (ar : Bool) (kaMax : Nat) : ∀ (ops : List Op) (s : St), libWfB ar kaMax s ops = true → LibWf ar kaMax s ops := by
  intro ops
  induction ops with
  | nil => intro s _; trivial
  | cons op rest ih =>
    intro s h
    simp only [libWfB, Bool.and_eq_true] at h
    refine ⟨h.1, ?_⟩
    intro s1 o1 hs
    have h2 := h.2
    simp only [hs] at h2
    exact ih s1 h2

/-! ## the invariant of the shared state -/

/-- the invariant the reader relies on: every buffered stream is in the priority tree -/
def Inv (s : St) : Prop := ∀ sid, sid ∈ s.buffers → s.inPrio sid = true

/-! ## the "merely unusual" events (class U of the property) and runs without them -/

/-- `some sid`: in state `s` this operation is an odd event of stream `sid`: DATA / END_STREAM for a stream hypercorn
    has forgotten (its response completed), or a request the protocol answers itself (CONNECT without `:path`, non-ASCII
    `:method` / `:path`) -/
def oddSid (s : St) : Op → Option Nat
  | .ev (.data sid) => if s.streams.contains sid then none else some sid
  | .ev (.ended sid) => if s.streams.contains sid then none else some sid
  | .ev (.request r _ _) =>
    if !s.terminated && r.wf && (!r.hasPath || !r.methodAscii || !r.pathAscii) then some r.sid else none
  | _ => none

/-- the run with the odd events of stream `i` left out -/
def runDrop (kaMax : Nat) (i : Nat) : St → List Op → R
  | s, [] => .ok (s, [])
  | s, op :: rest =>
    if oddSid s op = some i then runDrop kaMax i s rest
    else
      match step kaMax s op with
      | .error e => .error e
      | .ok (s1, o1) =>
        match runDrop kaMax i s1 rest with
        | .error e => .error e
        | .ok (s2, o2) => .ok (s2, o1 ++ o2)

/-- what stream `j` can observe: the outputs that carry its id -/
def obs (j : Nat) (o : List Out) : List Out := o.filter (fun x => x.tag == some j)

end HC.Proto.H2Recv
