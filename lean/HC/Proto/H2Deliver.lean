import HC.Proto.H2Recv
import HC.Proto.H11
import HC.Pure.Utils
/-!
# H2Deliver — the receive side of `H2Protocol` with its contents: what reaches the stream objects and h2's flow control

A thin wrapper around `HC.Proto.H2Recv` (which abstracts a request to five flags and a DATA event to its stream id).  The
two events that carry contents are operations of their own here:

* `request sid headers ins lib` – `RequestReceived`; the abstract request `H2Recv` works with is *computed* from the header
  list the way the loop at the top of `_create_stream` reads it (`reqOf`);
* `data sid payload flow` – `DataReceived` (`flow` = `flow_controlled_length`, padding included);

every other operation is `H2Recv`'s.  A step is `H2Recv.step` on the abstracted operation; each output that hands something
to a stream object (`stream.handle(…)`) or returns flow-control credit (`acknowledge_received_data`) is *decorated* with the
contents the source passes at that call:

```
Request(stream_id=…, headers=filter_pseudo_headers(request.headers), http_version="2", method=method, raw_path=raw_path, …)
Body(stream_id=event.stream_id, data=event.data)          acknowledge_received_data(event.flow_controlled_length, event.stream_id)
```
(the argument lists are read off the source by `tools/extract_req.py`: `ReqGlue.h2RequestArgs`, `dataBodyArgs`, `dataAckArgs`).
-/
namespace HC.Proto.H2Deliver
open HC HC.Proto.H2Recv

def isAscii (b : Bytes) : Bool := b.all (fun c => c < 128)

/-- the value the loop `for name, value in request.headers` leaves bound for `name` (the last one) -/
def lastVal (hs : Headers) (n : Bytes) : Option Bytes := (hs.reverse.find? (fun h => h.1 == n)).map (·.2)

/-- the request as `H2Recv` sees it -/
def reqOf (sid : Nat) (hs : Headers) : Req :=
  { sid := sid,
    hasMethod := (lastVal hs ":method".b).isSome,
    methodAscii := (hs.filter (fun h => h.1 == ":method".b)).all (fun h => isAscii h.2),
    isConnect := Bytes.upper ((lastVal hs ":method".b).getD []) == "CONNECT".b,
    hasPath := (lastVal hs ":path".b).isSome,
    pathAscii := (hs.filter (fun h => h.1 == ":path".b)).all (fun h => isAscii h.2) }

/-- the `Request` stream event `_create_stream` hands to the new stream -/
structure Request where
  headers : Headers          -- `filter_pseudo_headers(request.headers)`
  version : String           -- `"2"`
  method : String            -- `value.decode("ascii").upper()`
  rawPath : Bytes            -- the `:path` value
deriving Repr, DecidableEq

def requestOf (hs : Headers) : Request :=
  { headers := Utils.filterPseudo hs, version := "2", method := H11.decodeAsciiUpper ((lastVal hs ":method".b).getD []),
    rawPath := (lastVal hs ":path".b).getD [] }

/-- `HTTPStream.handle(Request)`: the scope (the extracted split of `raw_path`; the same code serves HTTP/1, cf. `H11.scopeOf`) -/
def scopeOf (r : Request) : H11.Scope :=
  { kind := "http", method := r.method, version := r.version, rawPath := HC.Extracted.ReqGlue.targetRawPath r.rawPath,
    query := HC.Extracted.ReqGlue.targetQuery r.rawPath, headers := r.headers }

inductive RxOp where
  | request (sid : Nat) (hs : Headers) (ins lib : Option Exn)
  | data (sid : Nat) (d : Bytes) (flow : Nat)
  | low (o : Op)
deriving Repr, DecidableEq

def RxOp.abs : RxOp → Op
  | .request sid hs ins lib => .ev (.request (reqOf sid hs) ins lib)
  | .data sid _ _ => .ev (.data sid)
  | .low o => o

/-- `low` is for the operations without contents -/
def RxOp.ok : RxOp → Bool
  | .low (.ev (.request _ _ _)) => false
  | .low (.ev (.data _)) => false
  | _ => true

/-- what reaches a stream object, and what is returned to h2's flow control -/
inductive Dlv where
  | start (sid : Nat) (ws : Bool) (r : Request)      -- `self.streams[sid] = HTTPStream(…) | WSStream(…)`; `handle(Request(…))`
  | body (sid : Nat) (d : Bytes)                       -- `handle(Body(data=event.data))`
  | endBody (sid : Nat)                                -- `handle(EndBody())`
  | closed (sid : Nat)                                 -- `handle(StreamClosed())`
  | ack (sid : Nat) (n : Nat)                          -- `acknowledge_received_data(n, sid)`
deriving Repr, DecidableEq

def decorate (op : RxOp) : Out → Option Dlv
  | .toStream sid w =>
    if w == "request" then (match op with | .request _ hs _ _ => some (.start sid (reqOf sid hs).isConnect (requestOf hs)) | _ => none)
    else if w == "body" then (match op with | .data _ d _ => some (.body sid d) | _ => none)
    else if w == "endBody" then some (.endBody sid)
    else if w == "streamClosed" then some (.closed sid)
    else none
  | .h2call name sid _ =>
    if name == "acknowledge_received_data" then (match op with | .data _ _ f => some (.ack sid f) | _ => none) else none
  | _ => none

def rxStep (kaMax : Nat) (s : St) (op : RxOp) : Except Exn (St × List Dlv) :=
  match step kaMax s op.abs with
  | .error e => .error e
  | .ok (s1, o) => .ok (s1, o.filterMap (decorate op))

def rxRun (kaMax : Nat) : St → List RxOp → Except Exn (St × List Dlv)
  | s, [] => .ok (s, [])
  | s, op :: rest =>
    match rxStep kaMax s op with
    | .error e => .error e
    | .ok (s1, d1) =>
      match rxRun kaMax s1 rest with
      | .error e => .error e
      | .ok (s2, d2) => .ok (s2, d1 ++ d2)

theorem rxStep_inv {kaMax : Nat} {s s1 : St} {op : RxOp} {d1 : List Dlv} (h : rxStep kaMax s op = .ok (s1, d1)) :
    ∃ o, step kaMax s op.abs = .ok (s1, o) ∧ d1 = o.filterMap (decorate op) := by
  unfold rxStep at h
  split at h
  · cases h
  · next o hs => cases h; exact ⟨o, hs, rfl⟩

theorem rxRun_cons_ok {kaMax : Nat} {s s' : St} {op : RxOp} {rest : List RxOp} {dl : List Dlv}
    (h : rxRun kaMax s (op :: rest) = .ok (s', dl)) :
    ∃ s1 d1 d2, rxStep kaMax s op = .ok (s1, d1) ∧ rxRun kaMax s1 rest = .ok (s', d2) ∧ dl = d1 ++ d2 := by
  simp only [rxRun] at h
  split at h
  · cases h
  · next s1 d1 h1 =>
    split at h
    · cases h
    · next s2 d2 h2 => cases h; exact ⟨s1, d1, d2, h1, h2, rfl⟩

/-- the wrapped run is the `H2Recv` run of the abstracted operations -/
theorem rxRun_abs (kaMax : Nat) : ∀ (ops : List RxOp) (s s' : St) (dl : List Dlv), rxRun kaMax s ops = .ok (s', dl) →
    ∃ o, run kaMax s (ops.map RxOp.abs) = .ok (s', o) := by
  intro ops
  induction ops with
  | nil => intro s s' dl h; cases h; exact ⟨[], rfl⟩
  | cons op rest ih =>
    intro s s' dl h
    obtain ⟨s1, d1, d2, h1, h2, _⟩ := rxRun_cons_ok h
    obtain ⟨o1, ho1, _⟩ := rxStep_inv h1
    obtain ⟨o2, ho2⟩ := ih _ _ _ h2
    exact ⟨o1 ++ o2, by simp only [List.map_cons, run, ho1, ho2]⟩

/-! ### reading deliveries and schedules -/

/-- what stream `i`'s object is handed, in order -/
def dlvFor (i : Nat) (dl : List Dlv) : List Dlv :=
  dl.filter (fun d => match d with | .start j _ _ => j == i | .body j _ => j == i | .endBody j => j == i | .closed j => j == i | .ack _ _ => false)

/-- the credit returned to h2, in order: (stream, bytes) -/
def acksOf (dl : List Dlv) : List (Nat × Nat) := dl.filterMap (fun d => match d with | .ack j n => some (j, n) | _ => none)

/-- the DATA events of a schedule, in order: (stream, flow-controlled length) -/
def flowsOf (ops : List RxOp) : List (Nat × Nat) := ops.filterMap (fun o => match o with | .data j _ f => some (j, f) | _ => none)

/-- the receive events of stream `i`: its RequestReceived, DataReceived and StreamEnded -/
def rxFor (i : Nat) : RxOp → Bool
  | .request j _ _ _ => j == i
  | .data j _ _ => j == i
  | .low (.ev (.ended j)) => j == i
  | _ => false

/-- what stream `i`'s receive events must deliver (`live`: `self.streams` has the stream).  Meant for a list already filtered
    with `rxFor i`: the only `low` operation that filter lets through is `StreamEnded`, and every `low` is read as that. -/
def expectR (i : Nat) : Bool → List RxOp → List Dlv
  | _, [] => []
  | _, .request _ hs _ _ :: r => .start i (reqOf i hs).isConnect (requestOf hs) :: expectR i true r
  | live, .data _ d _ :: r => (if live then [.body i d] else []) ++ expectR i live r
  | live, .low _ :: r => (if live then [.endBody i] else []) ++ expectR i live r

/-- the stream is kept: it is not reset by the client, the connection is not closed, and its application has not finished
    (`stream_send(StreamClosed)`) -/
def keeps (i : Nat) : RxOp → Bool
  | .low (.ev (.reset j)) => j != i
  | .low .closed => false
  | .low (.app j (.streamClosed _ _)) => j != i
  | _ => true

/-- `_create_stream` creates the stream: the server is not shutting down, `:method` and `:path` are there and ASCII, and
    the priority tree takes the stream (or has it already, from an earlier PRIORITY frame) -/
def accepts (s : St) (r : Req) (ins : Option Exn) : Bool :=
  !s.terminated && r.hasMethod && r.methodAscii && r.hasPath && r.pathAscii &&
  ((ins == none && !s.inPrio r.sid) || ins == some .prioDuplicate)

def opAdm (i : Nat) (s : St) (op : RxOp) : Bool :=
  op.ok && keeps i op && (match op with | .request j hs ins _ => j != i || accepts s (reqOf j hs) ins | _ => true)

/-- the hypothesis of the delivery theorem, along the run -/
def Adm (i : Nat) (kaMax : Nat) : St → List RxOp → Prop
  | _, [] => True
  | s, op :: rest => opAdm i s op = true ∧ (∀ s1 d1, rxStep kaMax s op = .ok (s1, d1) → Adm i kaMax s1 rest)

def admB (i : Nat) (kaMax : Nat) : St → List RxOp → Bool
  | _, [] => true
  | s, op :: rest => opAdm i s op && (match rxStep kaMax s op with | .ok (s1, _) => admB i kaMax s1 rest | .error _ => true)

theorem admB_sound (i kaMax : Nat) : ∀ (ops : List RxOp) (s : St), admB i kaMax s ops = true → Adm i kaMax s ops := by
  intro ops
  induction ops with
  | nil => intro s _; trivial
  | cons op rest ih =>
    intro s h
    simp only [admB, Bool.and_eq_true] at h
    refine ⟨h.1, ?_⟩
    intro s1 d1 hs
    have h2 := h.2
    simp only [hs] at h2
    exact ih s1 h2

end HC.Proto.H2Deliver
