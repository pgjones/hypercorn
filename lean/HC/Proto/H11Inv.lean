import HC.Proto.H11Total
/-!
# H11Inv — the invariant behind C04 `total_h1` (second of the chain H11Total → H11Inv → H11Run → H11Ev → H11Safe)

Every stream object ever created is *inert* (its application can no longer make it send anything), or it is the latest one
and h11's reader side is past IDLE; an HTTP stream that has not finished its response keeps h11's writer out of
IDLE / DONE / MUST_CLOSE (so the connection is only recycled when every object is inert and a new stream never has a live
predecessor); a WebSocket stream still in HANDSHAKE has h11's writer in SEND_RESPONSE with the upgrade proposal registered
(so the 400 for early data is accepted); the 100-continue flag is only up between a `Request` and the next loop top.
-/
namespace HC.Proto.H11
open HC HC.Stream HC.Lib HC.Extracted.H11Tables

theorem set_self {α : Type} : ∀ (l : List α) (i : Nat) (a : α), l[i]? = some a → l.set i a = l
  | [], _, _, h => by simp at h
  | x :: xs, 0, a, h => by simp at h; simp [h]
  | x :: xs, i + 1, a, h => by simp at h; simp [set_self xs i a h]

theorem St.setObj_self (st : St) (i : Nat) (o : Stream) (h : st.objs[i]? = some o) : st.setObj i o = st := by
  simp [St.setObj, set_self _ _ _ h]

def HttpInert (s : Http.S) : Prop := s.st = .closed ∧ s.closed = true

/-- the application owning this object can no longer make it emit anything -/
def Inert : Stream → Prop
  | .http s => HttpInert s
  | .ws s => s.closed = true

def closedFlag : Stream → Bool
  | .http s => s.closed
  | .ws s => s.closed

/-- `InvX true` is the invariant; `InvX false` is what holds *inside* an application send of the latest WebSocket stream, between
    the events it hands to the protocol (the HANDSHAKE clause is re-established when the send is over); `g` is the ghost of
    wsproto's reassembly state (the kind of the message whose fragments are arriving) -/
structure InvX (b : Bool) (st : St) (g : Ws.Frag) : Prop where
  -- a WSStream exists only on a connection switched to WebSocket mode, and has a wsproto connection once it has accepted
  wsObj : ∀ (i : Nat) (s : Ws.S), st.objs[i]? = some (Stream.ws s) → st.wsMode = true ∧ Ws.Ok s
  -- `self.response` is set while a response is under way
  httpObj : ∀ (i : Nat) (s : Http.S), st.objs[i]? = some (Stream.http s) → (s.st = .response ∨ s.st = .trailers) → s.response.isSome = true
  -- the current WSStream's receive buffer agrees with wsproto's reassembly state
  buf : ∀ (i : Nat) (s : Ws.S), st.cur = some i → st.objs[i]? = some (Stream.ws s) → Ws.BufRel g s.buffer
  -- no message is being reassembled before the switch to WebSocket mode
  frag0 : st.wsMode = false → g = none
  -- `self.stream` is the object created last
  curLast : ∀ (i : Nat), st.cur = some i → i + 1 = st.objs.length
  -- an object that has not been told `StreamClosed` is `self.stream`
  openCur : ∀ (i : Nat) (o : Stream), st.objs[i]? = some o → closedFlag o = false → st.cur = some i
  -- the four clauses the file header explains
  objs : ∀ (i : Nat) (o : Stream), st.objs[i]? = some o → Inert o ∨ (i + 1 = st.objs.length ∧ st.lib.client ≠ .idle)
  live : ∀ (i : Nat) (s : Http.S), st.objs[i]? = some (Stream.http s) → s.st ≠ .closed → st.lib.client = .error ∨ H11M.NotBad st.lib.server
  hand : b = true → ∀ (i : Nat) (s : Ws.S), st.cur = some i → st.objs[i]? = some (Stream.ws s) → s.st = .handshake → s.closed = false →
    st.lib.server = .sendResponse ∧ st.lib.pendUpgrade = true
  wait : st.lib.waiting100 = true → st.wsMode = false → st.switched = false → st.lib.server = .sendResponse ∧ st.pc = .inLoop

abbrev Inv (st : St) (g : Ws.Frag) : Prop := InvX true st g

theorem InvX.weaken {b : Bool} {st : St} {g : Ws.Frag} (h : InvX b st g) : InvX false st g :=
  { h with hand := fun hb => by cases hb }

theorem inv_init : Inv {} none where
  wsObj := by intro i s h; simp at h
  httpObj := by intro i s h; simp at h
  buf := by intro i s h; simp at h
  frag0 := fun _ => rfl
  curLast := by intro i h; simp at h
  openCur := by intro i o h; simp at h
  objs := by intro i o h; simp at h
  live := by intro i s h; simp at h
  hand := by intro _ i s h; simp at h
  wait := by intro h; simp at h

/-- frame: the objects, the current stream and the mode are untouched; what changed is h11's state and the reader's position -/
theorem inv_frame {b b' : Bool} {st st' : St} {g : Ws.Frag} (hI : InvX b st g) (ho : st'.objs = st.objs) (hc : st'.cur = st.cur) (hw : st'.wsMode = st.wsMode)
    (h1 : st'.lib.client = .idle → st.lib.client = .idle)
    (h2 : ∀ (i : Nat) (s : Http.S), st.objs[i]? = some (Stream.http s) → s.st ≠ .closed → st'.lib.client = .error ∨ H11M.NotBad st'.lib.server)
    (h3 : b' = true → ∀ (i : Nat) (s : Ws.S), st.cur = some i → st.objs[i]? = some (Stream.ws s) → s.st = .handshake → s.closed = false →
      st'.lib.server = .sendResponse ∧ st'.lib.pendUpgrade = true)
    (h4 : st'.lib.waiting100 = true → st'.wsMode = false → st'.switched = false → st'.lib.server = .sendResponse ∧ st'.pc = .inLoop) :
    InvX b' st' g where
  wsObj := by intro i s h; rw [ho] at h; rw [hw]; exact hI.wsObj i s h
  httpObj := by intro i s h; rw [ho] at h; exact hI.httpObj i s h
  buf := by intro i s h1' h2'; rw [hc] at h1'; rw [ho] at h2'; exact hI.buf i s h1' h2'
  frag0 := by intro h; rw [hw] at h; exact hI.frag0 h
  curLast := by intro i h; rw [hc] at h; rw [ho]; exact hI.curLast i h
  openCur := by intro i o h hf; rw [ho] at h; rw [hc]; exact hI.openCur i o h hf
  objs := by
    intro i o h; rw [ho] at h
    rcases hI.objs i o h with hin | ⟨hl, hne⟩
    · exact Or.inl hin
    · exact Or.inr ⟨by rw [ho]; exact hl, fun hi => hne (h1 hi)⟩
  live := by intro i s h hs; rw [ho] at h; exact h2 i s h hs
  hand := by intro hb i s hcur h hs hcl; rw [hc] at hcur; rw [ho] at h; exact h3 hb i s hcur h hs hcl
  wait := h4

/-! ### `_close_stream` -/

/-- what `handle(StreamClosed)` does to a stream object -/
def closeObj : Stream → Stream
  | .http s => .http (Http.handle s .streamClosed).1
  | .ws s => .ws (Ws.handle s .streamClosed).1

theorem getElem?_set_cases {α : Type} {l : List α} {i j : Nat} {a o : α} (hlt : i < l.length) (h : (l.set i a)[j]? = some o) :
    (j = i ∧ o = a) ∨ (j ≠ i ∧ l[j]? = some o) := by
  rw [List.getElem?_set] at h
  by_cases hij : i = j
  · subst hij; simp [hlt] at h; exact Or.inl ⟨rfl, h.symm⟩
  · simp [hij] at h; exact Or.inr ⟨fun e => hij e.symm, h⟩

/-- `handle(StreamClosed)` sets the flag and keeps everything else the invariant reads of an object -/
theorem closeObj_keeps (o : Stream) :
    closedFlag (closeObj o) = true ∧ (Inert o → Inert (closeObj o)) ∧
    (∀ s', closeObj o = .ws s' → ∃ s, o = .ws s ∧ (Ws.Ok s → Ws.Ok s')) ∧
    (∀ s', closeObj o = .http s' → ∃ s, o = .http s ∧ s'.st = s.st ∧ s'.response = s.response) := by
  cases o with
  | http s =>
    have h : (Http.handle s .streamClosed).1.st = s.st ∧ (Http.handle s .streamClosed).1.closed = true ∧
        (Http.handle s .streamClosed).1.response = s.response := by
      unfold Http.handle
      by_cases h : s.closed = true <;> simp [h]
    refine ⟨h.2.1, fun hi => ⟨h.1.trans hi.1, h.2.1⟩, ?_, ?_⟩ <;> intro s' he <;> cases he
    exact ⟨s, rfl, h.1, h.2.2⟩
  | ws s =>
    have h := Ws.handle_closed_total s
    refine ⟨h.2.2.2.2.2.2, fun _ => h.2.2.2.2.2.2, ?_, ?_⟩ <;> intro s' he <;> cases he
    exact ⟨s, rfl, fun hok ha => by rw [h.2.2.2.1]; exact hok (by rw [← h.2.2.1]; exact ha)⟩

/-- `_close_stream` hands the current object (if there is one) its `StreamClosed` -/
theorem closeStream_objs (st : St) :
    (closeStream st).1.objs = match st.cur.bind (fun i => (st.objs[i]?).map (i, ·)) with
      | none => st.objs
      | some (i, o) => st.objs.set i (closeObj o) := by
  unfold closeStream
  cases st.cur with
  | none => rfl
  | some i =>
    cases h : st.objs[i]? with
    | none => simp [h]
    | some o => cases o <;> simp [h, St.setObj, closeObj]

/-- every object after `_close_stream` comes from the one at its place: itself, or the current one closed -/
theorem closeStream_from {st : St} {j : Nat} {o' : Stream} (h : (closeStream st).1.objs[j]? = some o') :
    ∃ o, st.objs[j]? = some o ∧ ((o' = o ∧ st.cur ≠ some j) ∨ (o' = closeObj o ∧ st.cur = some j)) := by
  rw [closeStream_objs] at h
  cases hc : st.cur with
  | none => rw [hc] at h; exact ⟨o', h, .inl ⟨rfl, by simp⟩⟩
  | some i =>
    cases ho : st.objs[i]? with
    | none =>
      simp only [hc, ho, Option.bind_some, Option.map_none] at h
      exact ⟨o', h, .inl ⟨rfl, fun e => by cases e; rw [ho] at h; cases h⟩⟩
    | some o =>
      simp only [hc, ho, Option.bind_some, Option.map_some] at h
      rcases getElem?_set_cases (List.getElem?_eq_some_iff.mp ho).1 h with ⟨rfl, rfl⟩ | ⟨hne, h'⟩
      · exact ⟨o, ho, .inr ⟨rfl, rfl⟩⟩
      · exact ⟨o', h', .inl ⟨rfl, fun e => hne (by cases e; rfl)⟩⟩

/-- after `_close_stream` every object is closed: the one it was told to close, and the others because an open object is the
    current one -/
theorem closeStream_closed {b : Bool} {st : St} {g : Ws.Frag} (hI : InvX b st g) (j : Nat) (o : Stream) (h : (closeStream st).1.objs[j]? = some o) :
    closedFlag o = true := by
  obtain ⟨o0, ho, ⟨rfl, hne⟩ | ⟨rfl, _⟩⟩ := closeStream_from h
  · cases hf : closedFlag o with
    | true => rfl
    | false => exact absurd (hI.openCur j o ho hf) hne
  · exact (closeObj_keeps o0).1

theorem inv_closeStream {b b' : Bool} {st : St} {g : Ws.Frag} (hI : InvX b st g) : InvX b' (closeStream st).1 g := by
  have hshape := closeStream_shape st
  have hlib : (closeStream st).1.lib = st.lib := by rw [hshape]
  have hwm : (closeStream st).1.wsMode = st.wsMode := by rw [hshape]
  have hcur : (closeStream st).1.cur = none := by rw [hshape]
  have hlen : (closeStream st).1.objs.length = st.objs.length := by rw [closeStream_objs]; split <;> simp
  -- every object is closed now, and has whatever else the invariant says of the one it comes from
  have hfrom : ∀ (j : Nat) (o' : Stream), (closeStream st).1.objs[j]? = some o' → ∃ o, st.objs[j]? = some o ∧
      closedFlag o' = true ∧ (Inert o → Inert o') ∧ (∀ s', o' = .ws s' → ∃ s, o = .ws s ∧ (Ws.Ok s → Ws.Ok s')) ∧
      (∀ s', o' = .http s' → ∃ s, o = .http s ∧ s'.st = s.st ∧ s'.response = s.response) := by
    intro j o' h
    obtain ⟨o, ho, ⟨rfl, _⟩ | ⟨rfl, _⟩⟩ := closeStream_from h
    · exact ⟨o', ho, closeStream_closed hI j o' h, id, fun s' he => ⟨s', he, id⟩, fun s' he => ⟨s', he, rfl, rfl⟩⟩
    · exact ⟨o, ho, closeObj_keeps o⟩
  exact {
    wsObj := fun j s' h => by
      obtain ⟨o, ho, _, _, hw, _⟩ := hfrom j _ h
      obtain ⟨s, rfl, hok⟩ := hw s' rfl
      exact ⟨hwm ▸ (hI.wsObj j s ho).1, hok (hI.wsObj j s ho).2⟩
    httpObj := fun j s' h hs => by
      obtain ⟨o, ho, _, _, _, hh⟩ := hfrom j _ h
      obtain ⟨s, rfl, h1, h3⟩ := hh s' rfl
      rw [h3]; exact hI.httpObj j s ho (h1 ▸ hs)
    buf := fun j s h => by rw [hcur] at h; cases h
    frag0 := fun h => hI.frag0 (hwm ▸ h)
    curLast := fun j h => by rw [hcur] at h; cases h
    openCur := fun j o' h hf => by
      obtain ⟨o, _, hcl, _⟩ := hfrom j _ h
      rw [hcl] at hf; cases hf
    objs := fun j o' h => by
      obtain ⟨o, ho, _, hin, _⟩ := hfrom j _ h
      rw [hlen, hlib]
      exact (hI.objs j o ho).imp hin id
    live := fun j s' h hs => by
      obtain ⟨o, ho, _, _, _, hh⟩ := hfrom j _ h
      obtain ⟨s, rfl, h1, _⟩ := hh s' rfl
      rw [hlib]; exact hI.live j s ho (h1 ▸ hs)
    hand := fun _ j s h => by rw [hcur] at h; cases h
    wait := fun h1 h2 h3 => by
      rw [hshape] at h1 h2 h3 ⊢
      exact hI.wait h1 h2 h3 }

/-! ### `_maybe_recycle` -/

theorem inv_maybeRecycle {b b' : Bool} {st : St} {g : Ws.Frag} (hI : InvX b st g) : InvX b' (maybeRecycle st).1 g := by
  have hI1 : InvX b' (closeStream st).1 g := inv_closeStream hI
  have hcl := closeStream_closed hI
  have hcur1 : (closeStream st).1.cur = none := by rw [closeStream_shape]
  unfold maybeRecycle
  simp only []
  split
  · split
    · -- the cycle restarts: h11 had both sides DONE, so no response was unfinished and every object is inert
      rename_i hcond lib' hs
      obtain ⟨hc, hsv, rfl⟩ := H11M.startNextCycle_eq hs
      have hinert : ∀ (i : Nat) (o : Stream), (closeStream st).1.objs[i]? = some o → Inert o := by
        intro i o ho
        cases o with
        | ws s => exact hcl i _ ho
        | http s =>
          refine ⟨Classical.byContradiction fun hne => ?_, hcl i _ ho⟩
          rcases hI1.live i s ho hne with h | h
          · rw [hc] at h; cases h
          · exact h.2.1 hsv
      exact { hI1 with
        objs := fun i o h => Or.inl (hinert i o h)
        live := fun i s h hs => absurd (hinert i _ h).1 hs
        hand := fun _ i s h => by rw [hcur1] at h; cases h
        wait := fun h => by cases h }
    · exact hI1
  · -- no recycling: `closed`, the reader is released
    exact { hI1 with
      wait := fun h1 h2 h3 => ⟨(hI1.wait h1 h2 h3).1, by simp [(hI1.wait h1 h2 h3).2]⟩ }

/-! ### the latest object replaced (an application send, the reader handing it an event) or appended (a `Request`) -/

theorem inert_closedFlag (o : Stream) (h : Inert o) : closedFlag o = true := by
  cases o with
  | http s => exact h.2
  | ws s => exact h

/-- every object but the latest is inert, and so is the latest once h11's reader side is back in IDLE -/
theorem InvX.inert {b : Bool} {st : St} {g : Ws.Frag} (hI : InvX b st g) {j : Nat} {o : Stream} (h : st.objs[j]? = some o)
    (hj : j + 1 ≠ st.objs.length ∨ st.lib.client = .idle) : Inert o := by
  rcases hI.objs j o h with hin | ⟨hl, hc⟩
  · exact hin
  · rcases hj with hj | hj
    · exact absurd hl hj
    · exact absurd hj hc

/-- the invariant of a state whose objects are old inert ones and one latest object `o` at `k`: what has to be shown is what
    the invariant says about `o` -/
theorem inv_latest {b b' : Bool} {st st' : St} {g g' : Ws.Frag} (hI : InvX b st g) (k : Nat) (o : Stream)
    (hget : ∀ (j : Nat) (o' : Stream), st'.objs[j]? = some o' → (j = k ∧ o' = o) ∨ (j ≠ k ∧ st.objs[j]? = some o' ∧ Inert o'))
    (hk : k + 1 = st'.objs.length) (hcur : ∀ j, st'.cur = some j → j = k) (hopen : closedFlag o = false → st'.cur = some k)
    (hwm : st.wsMode = true → st'.wsMode = true) (hfrag : st'.wsMode = false → g' = none)
    (hc : Inert o ∨ st'.lib.client ≠ .idle)
    (hnew : match o with
      | .http s => (s.st = .response ∨ s.st = .trailers → s.response.isSome = true) ∧
          (s.st ≠ .closed → st'.lib.client = .error ∨ H11M.NotBad st'.lib.server)
      | .ws s => st'.wsMode = true ∧ Ws.Ok s ∧ (st'.cur = some k → Ws.BufRel g' s.buffer) ∧
          (b' = true → st'.cur = some k → s.st = .handshake → s.closed = false →
            st'.lib.server = .sendResponse ∧ st'.lib.pendUpgrade = true))
    (hwait : st'.lib.waiting100 = true → st'.wsMode = false → st'.switched = false → st'.lib.server = .sendResponse ∧ st'.pc = .inLoop) :
    InvX b' st' g' where
  wsObj j sw h := by
    rcases hget j _ h with ⟨_, rfl⟩ | ⟨_, h', _⟩
    · exact ⟨hnew.1, hnew.2.1⟩
    · exact ⟨hwm (hI.wsObj j sw h').1, (hI.wsObj j sw h').2⟩
  httpObj j sh h hs := by
    rcases hget j _ h with ⟨_, rfl⟩ | ⟨_, h', _⟩
    · exact hnew.1 hs
    · exact hI.httpObj j sh h' hs
  buf j sw hj h := by
    rcases hget j _ h with ⟨_, rfl⟩ | ⟨hne, _⟩
    · exact hnew.2.2.1 (hcur j hj ▸ hj)
    · exact absurd (hcur j hj) hne
  frag0 := hfrag
  curLast j hj := hcur j hj ▸ hk
  openCur j o' h hf := by
    rcases hget j _ h with ⟨rfl, rfl⟩ | ⟨_, _, hin⟩
    · exact hopen hf
    · rw [inert_closedFlag o' hin] at hf; cases hf
  objs j o' h := by
    rcases hget j _ h with ⟨rfl, rfl⟩ | ⟨_, _, hin⟩
    · exact hc.imp id fun h => ⟨hk, h⟩
    · exact Or.inl hin
  live j sh h hs := by
    rcases hget j _ h with ⟨_, rfl⟩ | ⟨_, _, hin⟩
    · exact hnew.2 hs
    · exact absurd hin.1 hs
  hand hb j sw hj h hs hcl := by
    rcases hget j _ h with ⟨_, rfl⟩ | ⟨hne, _⟩
    · exact hnew.2.2.2 hb (hcur j hj ▸ hj) hs hcl
    · exact absurd (hcur j hj) hne
  wait := hwait

/-- the latest object `o` replaced by `o'`, with a new state of h11 -/
theorem inv_set {b : Bool} {st : St} {g : Ws.Frag} (hI : InvX b st g) (i : Nat) (o' : Stream) (lib' : H11M.St)
    (hlast : i + 1 = st.objs.length) :
    let st' : St := { st with objs := st.objs.set i o', lib := lib' }
    (∀ (j : Nat) (x : Stream), st'.objs[j]? = some x → (j = i ∧ x = o') ∨ (j ≠ i ∧ st.objs[j]? = some x ∧ Inert x)) ∧
    i + 1 = st'.objs.length ∧ ∀ j, st'.cur = some j → j = i := by
  refine ⟨fun j x h => ?_, by simp [hlast], fun j hj => by have := hI.curLast j hj; omega⟩
  rcases getElem?_set_cases (by omega) h with h | ⟨hne, h'⟩
  · exact Or.inl h
  · exact Or.inr ⟨hne, h', hI.inert h' (Or.inl (by omega))⟩

theorem inv_setHttp {b b' : Bool} {st : St} {g : Ws.Frag} (hI : InvX b st g) (i : Nat) (s s' : Http.S) (lib' : H11M.St)
    (hi : st.objs[i]? = some (Stream.http s)) (hlast : i + 1 = st.objs.length)
    (ha : (s'.st = .response ∨ s'.st = .trailers) → s'.response.isSome = true)
    (hb : s'.closed = s.closed)
    (hc : HttpInert s' ∨ lib'.client ≠ .idle)
    (hd : lib'.client = .idle → st.lib.client = .idle)
    (he : s'.st ≠ .closed → lib'.client = .error ∨ H11M.NotBad lib'.server)
    (hh : lib'.waiting100 = true → st.wsMode = false → st.switched = false → lib'.server = .sendResponse ∧ st.pc = .inLoop) :
    InvX b' { st with objs := st.objs.set i (Stream.http s'), lib := lib' } g := by
  obtain ⟨hget, hk, hcur⟩ := inv_set hI i (.http s') lib' hlast
  exact inv_latest hI i (.http s') hget hk hcur (fun hf => hI.openCur i _ hi (by simpa [closedFlag, hb] using hf)) id hI.frag0
    hc ⟨ha, he⟩ hh

theorem inv_setWs {b b' : Bool} {st : St} {g g' : Ws.Frag} (hI : InvX b st g) (i : Nat) (s s' : Ws.S) (lib' : H11M.St)
    (hi : st.objs[i]? = some (Stream.ws s)) (hlast : i + 1 = st.objs.length)
    (ha : Ws.Ok s') (hbuf : Ws.BufRel g' s'.buffer)
    (hb : s'.closed = false → s.closed = false)
    (hc : s'.closed = true ∨ lib'.client ≠ .idle)
    (hd : lib'.client = .idle → st.lib.client = .idle)
    (he : b' = true → st.cur = some i → s'.st = .handshake → s'.closed = false → lib'.server = .sendResponse ∧ lib'.pendUpgrade = true) :
    InvX b' { st with objs := st.objs.set i (Stream.ws s'), lib := lib' } g' := by
  have hwm : st.wsMode = true := (hI.wsObj i s hi).1
  obtain ⟨hget, hk, hcur⟩ := inv_set hI i (.ws s') lib' hlast
  exact inv_latest hI i (.ws s') hget hk hcur (fun hf => hI.openCur i _ hi (hb hf)) id (fun h => by rw [hwm] at h; cases h)
    hc ⟨hwm, ha, fun _ => hbuf, he⟩ (fun _ h => by rw [hwm] at h; cases h)

/-- a `Request` arrived (so h11's reader side was IDLE and every object is inert): a new stream object becomes the current one -/
theorem inv_newObj {st st' : St} {g : Ws.Frag} (hI : Inv st g) (hidle : st.lib.client = .idle) (hnws : st.wsMode = false)
    (o : Stream) (ho : st'.objs = st.objs ++ [o]) (hc : st'.cur = some st.objs.length) (ha : st'.lib.client ≠ .idle)
    (hnew : match o with
      | .http s => (s.st = .response ∨ s.st = .trailers → s.response.isSome = true) ∧
          (s.st ≠ .closed → st'.lib.client = .error ∨ H11M.NotBad st'.lib.server)
      | .ws s => st'.wsMode = true ∧ Ws.Ok s ∧ Ws.BufRel none s.buffer ∧
          (s.st = .handshake → s.closed = false → st'.lib.server = .sendResponse ∧ st'.lib.pendUpgrade = true))
    (hwait : st'.lib.waiting100 = true → st'.wsMode = false → st'.switched = false → st'.lib.server = .sendResponse ∧ st'.pc = .inLoop) :
    Inv st' g := by
  have hg : g = none := hI.frag0 hnws
  refine inv_latest hI st.objs.length o (fun j o' h => ?_) (by rw [ho]; simp) (fun j hj => by rw [hc] at hj; cases hj; rfl)
    (fun _ => hc) (fun h => by rw [hnws] at h; cases h) (fun _ => hg) (Or.inr ha) ?_ hwait
  · rw [ho, List.getElem?_append] at h
    split at h
    · rename_i hlt; exact Or.inr ⟨by omega, h, hI.inert h (Or.inr hidle)⟩
    · rename_i hlt
      have hj : j - st.objs.length = 0 := by
        cases hj : j - st.objs.length with
        | zero => rfl
        | succ k => rw [hj] at h; simp at h
      rw [hj] at h
      exact Or.inl ⟨by omega, by simpa using h.symm⟩
  · cases o with
    | http s => exact hnew
    | ws s => exact ⟨hnew.1, hnew.2.1, fun _ => hg ▸ hnew.2.2.1, fun _ _ => hnew.2.2.2⟩

end HC.Proto.H11
