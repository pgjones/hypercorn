import HC.Proto.H11Run
/-!
# H11Ev — every result of `next_event()` is handled without an exception leaving the reader (lemmas for C04 `total_h1`)

Fourth of the chain H11Total → H11Inv → H11Run → H11Ev → H11Safe.  The first third is about the request that asks for a
WebSocket, not about the invariant: `Handshake.__init__` / `is_valid` do not raise on it (`ws_onRequest_ok`), and h11 has
registered the upgrade proposal for it (`upgrade_seen`, over byte-string lemmas for `strip` / `split`).  Then one `ev_*` lemma
per result of `next_event()`.
-/
namespace HC.Proto.H11
open HC HC.Stream HC.Lib HC.Extracted.H11Tables

/-! ## the WebSocket handshake of an HTTP/1 request never raises -/

/-- one round of the header loop of `Handshake.__init__` (`Ws.Scanned`) leaves `accepted` alone, and `upgrade` too unless the
    header is `Upgrade` -/
theorem scanned_upgrade {h h' : Ws.Handshake} {n v : Bytes} (hs : Ws.Scanned h n v h') :
    h'.accepted = h.accepted ∧ (h'.upgrade = h.upgrade ∧ Bytes.lower n ≠ "upgrade".b ∨ h'.upgrade = some v) := by
  have ne : ∀ X : Bytes, X ≠ "upgrade".b → Bytes.lower n = X → Bytes.lower n ≠ "upgrade".b := fun X hX e => e ▸ hX
  cases hs with
  | connection e | extensions e | subprotocols e | key e | wsVersion e => exact ⟨rfl, .inl ⟨rfl, ne _ (by decide +kernel) e⟩⟩
  | malformed hc =>
    refine ⟨rfl, .inl ⟨rfl, fun e => ?_⟩⟩
    rw [Ws.isCommaHeader, e] at hc; revert hc; decide +kernel
  | upgrade => exact ⟨rfl, .inr rfl⟩
  | other hne => exact ⟨rfl, .inl ⟨rfl, hne _ (by simp)⟩⟩

theorem scan_facts (hname : Ws.Handshake.NamesLowered) : ∀ (hs : Headers) (h0 : Ws.Handshake),
    ∃ h', Ws.Handshake.scan h0 hs = .ok h' ∧ h'.accepted = h0.accepted ∧
      (h0.upgrade.isSome = true → h'.upgrade.isSome = true) ∧
      ((∃ x ∈ hs, Bytes.lower x.1 = "upgrade".b) → h'.upgrade.isSome = true) := by
  intro hs
  induction hs with
  | nil => intro h0; exact ⟨h0, rfl, rfl, id, fun ⟨x, hx, _⟩ => by simp at hx⟩
  | cons hd tl ih =>
    intro h0
    obtain ⟨n, v⟩ := hd
    obtain ⟨h1, hrow, he1⟩ := Ws.scan_cons hname h0 n v tl
    obtain ⟨ha1, hu1⟩ := scanned_upgrade hrow
    obtain ⟨h', he, ha', hu', hex⟩ := ih h1
    refine ⟨h', he1.trans he, ha'.trans ha1, fun h => hu' ?_, ?_⟩
    · rcases hu1 with ⟨e, _⟩ | e <;> rw [e]
      · exact h
      · rfl
    · rintro ⟨x, hx, hxn⟩
      rcases List.mem_cons.mp hx with rfl | hx'
      · rcases hu1 with ⟨_, hne⟩ | e
        · exact absurd hxn hne
        · exact hu' (by rw [e]; rfl)
      · exact hex ⟨x, hx', hxn⟩

theorem isOk_ite {c : Prop} [Decidable c] {a b : Except PyErr Bool} (ha : ∃ x, a = .ok x) (hb : ∃ x, b = .ok x) :
    ∃ x, (if c then a else b) = .ok x := by
  split <;> assumption

theorem isValid_ok (h : Ws.Handshake) (hu : h.upgrade.isSome = true) : ∃ b, h.isValid = .ok b := by
  obtain ⟨u, hup⟩ := Option.isSome_iff_exists.mp hu
  -- every branch answers, except `self.upgrade.lower()` on `None`
  unfold Ws.Handshake.isValid
  rw [hup]
  refine isOk_ite ⟨_, rfl⟩ (isOk_ite ⟨_, rfl⟩ (isOk_ite (isOk_ite ⟨_, rfl⟩ ?_) ⟨_, rfl⟩))
  cases h.connectionTokens with
  | none => exact ⟨_, rfl⟩
  | some ts => exact isOk_ite ⟨_, rfl⟩ (isOk_ite ⟨_, rfl⟩ ⟨_, rfl⟩)

/-- `WSStream.handle(Request)`: with an `Upgrade` header among the headers it is given, the stream answers 404 / 400 by itself
    (and is closed) or starts the application; it does not raise -/
theorem ws_onRequest_ok (hname : Ws.Handshake.NamesLowered) (maxLen : Nat) (version : String) (hdrs : Headers) (ok ping : Bool)
    (hup : ∃ x ∈ hdrs, Bytes.lower x.1 = "upgrade".b) :
    ∃ s puts evs, Ws.onRequest maxLen version hdrs ok ping = .ok (s, puts, evs) ∧ s.hs.accepted = false ∧ s.conn = none ∧
      s.buffer = { maxLength := maxLen } ∧ s.st = .handshake ∧
      ((s.closed = true ∧ ∃ status, (status = 404 ∨ status = 400) ∧ evs = Ws.errorResponse status ++ [.spawnClose]) ∨
       (s.closed = false ∧ evs = [])) := by
  obtain ⟨h', he, ha, _, hex⟩ := scan_facts hname hdrs { version := version }
  obtain ⟨bv, hv⟩ := isValid_ok h' (hex hup)
  unfold Ws.onRequest Ws.Handshake.ofRequest
  simp only [he, bind, Except.bind, pure, Except.pure]
  by_cases hok : ok = true
  · simp only [hok, Bool.not_true, Bool.false_eq_true, if_false, hv]
    by_cases hb : bv = true
    · simp only [hb, Bool.not_true, Bool.false_eq_true, if_false]
      exact ⟨_, _, _, rfl, ha, rfl, rfl, rfl, Or.inr ⟨rfl, rfl⟩⟩
    · simp only [hb, Bool.not_false, if_true]
      exact ⟨_, _, _, rfl, ha, rfl, rfl, rfl, Or.inl ⟨rfl, 400, Or.inr rfl, rfl⟩⟩
  · simp only [hok, Bool.not_false, if_true]
    exact ⟨_, _, _, rfl, ha, rfl, rfl, rfl, Or.inl ⟨rfl, 404, Or.inl rfl, rfl⟩⟩

/-! ### h11 registered the upgrade proposal for every request hypercorn treats as an upgrade (bytes level) -/

theorem lstripBy_subset (p : UInt8 → Bool) : ∀ (l : Bytes) (x : UInt8), x ∈ Bytes.lstripBy p l → x ∈ l := by
  intro l
  induction l with
  | nil => intro x h; simp [Bytes.lstripBy] at h
  | cons b bs ih =>
    intro x h
    simp only [Bytes.lstripBy] at h
    split at h
    · exact List.mem_cons_of_mem _ (ih x h)
    · exact h

theorem lstripBy_keeps (p : UInt8 → Bool) : ∀ (l : Bytes) (x : UInt8), x ∈ l → p x = false → x ∈ Bytes.lstripBy p l := by
  intro l
  induction l with
  | nil => intro x h; simp at h
  | cons b bs ih =>
    intro x h hp
    simp only [Bytes.lstripBy]
    split
    · rename_i hb
      rcases List.mem_cons.mp h with rfl | h'
      · rw [hp] at hb; cases hb
      · exact ih x h' hp
    · exact h

theorem stripBy_subset (p : UInt8 → Bool) (l : Bytes) (x : UInt8) (h : x ∈ Bytes.stripBy p l) : x ∈ l := by
  unfold Bytes.stripBy Bytes.rstripBy at h
  have h1 := lstripBy_subset p _ x (by simpa using h)
  exact lstripBy_subset p l x (by simpa using h1)

theorem stripBy_keeps (p : UInt8 → Bool) (l : Bytes) (x : UInt8) (h : x ∈ l) (hp : p x = false) : x ∈ Bytes.stripBy p l := by
  unfold Bytes.stripBy Bytes.rstripBy
  have h1 := lstripBy_keeps p l x h hp
  have h2 := lstripBy_keeps p (Bytes.lstripBy p l).reverse x (by simpa using h1) hp
  simpa using h2

theorem splitOnB_piece (sep : UInt8) : ∀ (l : Bytes) (x : UInt8), x ∈ l → x ≠ sep → ∃ piece ∈ Bytes.splitOnB sep l, x ∈ piece := by
  intro l
  induction l with
  | nil => intro x h; simp at h
  | cons b bs ih =>
    intro x h hne
    simp only [Bytes.splitOnB]
    split
    · rename_i hb
      have hb' : b = sep := by simpa using hb
      rcases List.mem_cons.mp h with rfl | h'
      · exact absurd hb' hne
      · obtain ⟨piece, hp, hx⟩ := ih x h' hne
        exact ⟨piece, List.mem_cons_of_mem _ hp, hx⟩
    · cases hs : Bytes.splitOnB sep bs with
      | nil => exact absurd hs (Bytes.splitOnB_ne_nil sep bs)
      | cons p ps =>
        simp only []
        rcases List.mem_cons.mp h with rfl | h'
        · exact ⟨x :: p, by simp, by simp⟩
        · obtain ⟨piece, hp, hx⟩ := ih x h' hne
          rw [hs] at hp
          rcases List.mem_cons.mp hp with rfl | hp'
          · exact ⟨b :: piece, by simp, List.mem_cons_of_mem _ hx⟩
          · exact ⟨piece, by simp [hp'], hx⟩

theorem letter_not_sep (y : UInt8) (c : UInt8) (hc : 97 ≤ c.toNat ∧ c.toNat ≤ 122) (h : Bytes.lowerB y = c) :
    y ≠ 44 ∧ Bytes.isWsB y = false := by
  unfold Bytes.lowerB at h
  have hy : 65 ≤ y.toNat := by
    split at h
    · rename_i hh; exact hh.1
    · subst h; omega
  refine ⟨?_, ?_⟩
  · intro h44; subst h44; simp at hy
  · simp only [Bytes.isWsB, Bool.or_eq_false_iff, Bool.and_eq_false_iff, decide_eq_false_iff_not, beq_eq_false_iff_ne]
    refine ⟨?_, Or.inr (by omega)⟩
    intro h32; subst h32; simp at hy

theorem upgrade_token (v : Bytes) (c : UInt8) (rest : Bytes) (hc : 97 ≤ c.toNat ∧ c.toNat ≤ 122)
    (h : Bytes.lower (Bytes.stripL1 v) = c :: rest) : (Bytes.splitOnB 44 v).any (fun t => Bytes.strip t ≠ []) = true := by
  cases hs : Bytes.stripL1 v with
  | nil => rw [hs] at h; simp [Bytes.lower] at h
  | cons y ys =>
    rw [hs] at h
    simp only [Bytes.lower, List.map_cons, List.cons.injEq] at h
    have hy : y ∈ v := stripBy_subset Bytes.isWsL1 v y (by unfold Bytes.stripL1 at hs; rw [hs]; simp)
    obtain ⟨hne, hws⟩ := letter_not_sep y c hc h.1
    obtain ⟨piece, hp, hx⟩ := splitOnB_piece 44 v y hy hne
    rw [List.any_eq_true]
    refine ⟨piece, hp, ?_⟩
    have := stripBy_keeps Bytes.isWsB piece y hx hws
    simp only [decide_eq_true_eq]
    intro he
    unfold Bytes.strip at he
    rw [he] at this
    simp at this

/-- h11's own reading of the `Upgrade` header (`get_comma_header`: any non-empty token) registers the proposal whenever
    hypercorn's reading of it (last header, latin-1 stripped, lower-cased) finds `h2c` or `websocket` -/
theorem upgrade_seen (r : ReqEv) (hnames : ∀ h ∈ r.headers, Bytes.lower h.1 = h.1 ∧ Bytes.stripL1 h.1 = h.1)
    (h : (reqIsH2c r || isWebsocketRequest r) = true) : (reqInfo r).hasUpgrade = true := by
  -- the value hypercorn read
  have hv : ∃ v c rest, hdr "upgrade".b r.headers = some v ∧ Bytes.lower v = c :: rest ∧ (97 ≤ c.toNat ∧ c.toNat ≤ 122) := by
    simp only [Bool.or_eq_true] at h
    rcases h with h | h
    · simp only [reqIsH2c, beq_iff_eq, Option.map_eq_some_iff] at h
      obtain ⟨v, hv, hl⟩ := h
      exact ⟨v, 104, [50, 99], hv, by rw [hl]; decide, by decide⟩
    · simp only [isWebsocketRequest, Bool.and_eq_true, beq_iff_eq] at h
      obtain ⟨⟨_, hu⟩, _⟩ := h
      cases hh : hdr "upgrade".b r.headers with
      | none => rw [hh] at hu; simp at hu; exact absurd hu (by decide)
      | some v =>
        rw [hh] at hu
        simp only [Option.getD_some] at hu
        exact ⟨v, 119, [101, 98, 115, 111, 99, 107, 101, 116], rfl, by rw [hu]; decide, by decide⟩
  obtain ⟨v, c, rest, hv, hl, hc⟩ := hv
  simp only [hdr, Option.map_eq_some_iff] at hv
  obtain ⟨hh, hf, rfl⟩ := hv
  have hm : hh ∈ r.headers := by simpa using List.mem_of_find?_eq_some hf
  have hp := List.find?_some hf
  simp only [beq_iff_eq] at hp
  have hn := hnames hh hm
  have hname : hh.1 = "upgrade".b := by rw [hn.2, hn.1] at hp; exact hp
  simp only [reqInfo]
  rw [List.any_eq_true]
  exact ⟨hh, by simp [List.mem_filter, hm, hname], upgrade_token hh.2 c rest hc hl⟩

/-- a request hypercorn takes for a WebSocket handshake carries an `Upgrade` header in whichever header list the stream is given -/
theorem ws_request_has_upgrade (cfg : Cfg) (r : ReqEv) (hw : isWebsocketRequest r = true) (hwf : hdrWf r = true) :
    ∃ x ∈ (scopeOf cfg r true).headers, Bytes.lower x.1 = "upgrade".b := by
  simp only [hdrWf, Bool.and_eq_true, List.all_eq_true, beq_iff_eq] at hwf
  obtain ⟨hnames, hraw⟩ := hwf
  -- the header `hdr` found
  have hfound : ∃ h ∈ r.headers, Bytes.lower (Bytes.stripL1 h.1) = "upgrade".b := by
    simp only [isWebsocketRequest, Bool.and_eq_true, beq_iff_eq] at hw
    obtain ⟨⟨_, hu⟩, _⟩ := hw
    cases hf : r.headers.reverse.find? (fun h => Bytes.lower (Bytes.stripL1 h.1) == "upgrade".b) with
    | none =>
      exfalso
      simp only [hdr, hf, Option.map_none, Option.getD_none] at hu
      exact absurd hu (by decide)
    | some h =>
      have hm := List.mem_of_find?_eq_some hf
      have hp := List.find?_some hf
      exact ⟨h, by simpa using hm, by simpa using hp⟩
  obtain ⟨h, hmem, hname⟩ := hfound
  have hn := hnames h hmem
  have hlow : Bytes.lower h.1 = "upgrade".b := by rw [hn.2] at hname; exact hname
  simp only [scopeOf]
  by_cases hrw : cfg.rawHeaders = true
  · simp only [hrw, if_true]
    rw [← hraw] at hmem
    simp only [List.mem_map] at hmem
    obtain ⟨h', hm', heq⟩ := hmem
    refine ⟨h', hm', ?_⟩
    have : Bytes.lower h'.1 = h.1 := by rw [← heq]
    rw [this, ← hn.1, hlow]
  · simp only [hrw, Bool.false_eq_true, if_false]
    exact ⟨h, hmem, hlow⟩

/-! ## the reader -/

/-- the ghost (wsproto's reassembly state) after the event -/
def ghostEv (g : Ws.Frag) : LibEv → Ws.Frag
  | .wsData _ evs => Ws.evsNext g evs
  | _ => g

/-- the loop top: the 100 Continue (if due) is accepted by h11 — the flag is only up right after a `Request` -/
theorem loopTop_ok (cfg : Cfg) (st : St) (g : Ws.Frag) (hI : Inv st g) (hsw : st.switched = false) :
    (st.lib.waiting100 && !st.wsMode && (libSend st (.info 100 cfg.serverHeaders)).2.2) = false ∧
    Inv (loopTop cfg st).1 g ∧ ((loopTop cfg st).1.lib.waiting100 = false ∨ st.wsMode = true) := by
  by_cases hc : (st.lib.waiting100 && !st.wsMode) = true
  · have hc' := hc
    simp only [Bool.and_eq_true, Bool.not_eq_true'] at hc'
    obtain ⟨hwt, hwm⟩ := hc'
    obtain ⟨hsv, _⟩ := hI.wait hwt hwm hsw
    have hok := libSend_info_ok st 100 cfg.serverHeaders hsv (by intro h; cases h)
    refine ⟨by simp [hok.1], ?_, ?_⟩
    · unfold loopTop
      rw [if_pos hc, libSend_shape]
      refine inv_frame hI rfl rfl rfl (libSend_step st _).idle (fun _ _ _ _ => Or.inr ?_) ?_ ?_
      · rw [(hok.2.2 (by decide)).1]; exact ⟨by decide, by decide, by decide⟩
      · intro _ i s hcur hobj _ _
        have := (hI.wsObj i s hobj).1
        rw [hwm] at this; cases this
      · intro h; simp only [] at h; rw [hok.2.1] at h; cases h
    · left; unfold loopTop; rw [if_pos hc]; exact hok.2.1
  · have hc' : (st.lib.waiting100 && !st.wsMode) = false := by simpa using hc
    refine ⟨by simp [hc'], ?_, ?_⟩
    · unfold loopTop; rw [if_neg hc]; exact hI
    · unfold loopTop; rw [if_neg hc]
      cases hw : st.lib.waiting100 <;> cases hm : st.wsMode <;> simp_all

section body
variable (cfg : Cfg) (st : St) (o0 : List Out) (g : Ws.Frag)

/-- only the reader's own position / flags changed -/
theorem inv_reader {st st' : St} {g : Ws.Frag} (hI : Inv st g) (hw : st.lib.waiting100 = false ∨ st.wsMode = true)
    (ho : st'.objs = st.objs) (hc : st'.cur = st.cur) (hwm : st'.wsMode = st.wsMode) (hl : st'.lib = st.lib) : Inv st' g := by
  refine inv_frame hI ho hc hwm (by rw [hl]; exact id) (fun i s h hs => by rw [hl]; exact hI.live i s h hs)
    (fun _ i s h1 h2 h3 h4 => by rw [hl]; exact hI.hand rfl i s h1 h2 h3 h4) ?_
  intro h1 h2 _
  rw [hl] at h1; rw [hwm] at h2
  rcases hw with hw | hw
  · rw [hw] at h1; cases h1
  · rw [hw] at h2; cases h2

/-- Data / EndOfMessage / ConnectionClosed went through h11's state machine (not in WebSocket mode) -/
theorem inv_recv {st st' : St} {g : Ws.Frag} (hI : Inv st g) (hnws : st.wsMode = false)
    (ho : st'.objs = st.objs) (hc : st'.cur = st.cur) (hwm : st'.wsMode = st.wsMode)
    (ha : st'.lib.client ≠ .idle) (hb : st.lib.client ≠ .error) (hsv : H11M.NotBad st.lib.server → st'.lib.server = st.lib.server)
    (hd : st'.lib.waiting100 = false) : Inv st' g := by
  refine inv_frame hI ho hc hwm (fun h => absurd h ha) ?_ ?_ (fun h => by rw [hd] at h; cases h)
  · intro i s h hs
    rcases hI.live i s h hs with h' | h'
    · exact absurd h' hb
    · right; rw [hsv h']; exact h'
  · intro _ i s hcur hobj _ _
    have := (hI.wsObj i s hobj).1
    rw [hnws] at this; cases this

theorem http_handle_same (s : Http.S) (d : Bytes) : (Http.handle s (.body d)).1 = s ∧ (Http.handle s .endBody).1 = s := by
  unfold Http.handle
  by_cases h : s.closed = true <;> simp [h]

theorem ev_needData (hI : Inv st g) (hw : st.lib.waiting100 = false ∨ st.wsMode = true) :
    ∃ r, onLibEvBody cfg st o0 .needData = some r ∧ Inv r.1 g :=
  ⟨_, rfl, inv_reader hI hw rfl rfl rfl rfl⟩

theorem ev_paused (hI : Inv st g) (hw : st.lib.waiting100 = false ∨ st.wsMode = true) :
    ∃ r, onLibEvBody cfg st o0 .paused = some r ∧ Inv r.1 g := by
  simp only [onLibEvBody]
  split
  · exact ⟨_, rfl, inv_reader hI hw rfl rfl rfl rfl⟩
  · exact ⟨_, rfl, inv_reader hI hw rfl rfl rfl rfl⟩

theorem ev_connClosed (hI : Inv st g) (hw : st.lib.waiting100 = false ∨ st.wsMode = true)
    (hp : libPossibleAt st g .connClosed = true) : ∃ r, onLibEvBody cfg st o0 .connClosed = some r ∧ Inv r.1 g := by
  simp only [libPossibleAt, Bool.and_eq_true, Bool.not_eq_true', Option.isSome_iff_exists] at hp
  obtain ⟨hnws, lib', hl⟩ := hp
  have hwt : st.lib.waiting100 = false := by rcases hw with h | h; exact h; rw [hnws] at h; cases h
  have a := H11M.stepClient_after _ _ _ hl
  simp only [onLibEvBody, hl]
  exact ⟨_, rfl, inv_recv hI hnws rfl rfl rfl a.2.1 a.2.2.1 a.1 (by simp only []; rw [a.2.2.2.1]; exact hwt)⟩

/-- Data and EndOfMessage: h11 takes the event, the current HTTP stream (if any) passes it on and stays as it is -/
theorem ev_body (e : LibEv) (he : (∃ d, e = .data d) ∨ e = .eom) (hI : Inv st g) (hp : libPossibleAt st g e = true) :
    ∃ r, onLibEvBody cfg st o0 e = some r ∧ Inv r.1 g := by
  rcases he with ⟨d, rfl⟩ | rfl
  all_goals
    simp only [libPossibleAt, Bool.and_eq_true, Bool.not_eq_true', Option.isSome_iff_exists] at hp
    obtain ⟨hnws, lib', hl⟩ := hp
    have hl' := hl
    simp only [H11M.recvData, H11M.recvEom, Option.map_eq_some_iff] at hl'
    obtain ⟨l1, hl1, rfl⟩ := hl'
    have a := H11M.stepClient_after _ _ _ hl1
    have hInv : ∀ st' : St, st'.objs = st.objs → st'.cur = st.cur → st'.wsMode = st.wsMode → st'.lib = l1.withWaiting false → Inv st' g :=
      fun st' ho hc hwm hl => inv_recv hI hnws ho hc hwm (by rw [hl]; exact a.2.1) a.2.2.1 (fun h => by rw [hl]; exact a.1 h) (by rw [hl]; rfl)
    simp only [onLibEvBody, hl]
    cases hcur : st.cur with
    | none => exact ⟨_, rfl, hInv _ rfl (by simp [hcur]) rfl rfl⟩
    | some i =>
      cases hobj : st.objs[i]? with
      | none =>
        simp only [St.stream, Option.bind_some, hobj]
        exact ⟨_, rfl, hInv _ rfl (by simp [hcur]) rfl rfl⟩
      | some o =>
        cases o with
        | ws s => have := (hI.wsObj i s hobj).1; rw [hnws] at this; cases this
        | http s =>
          simp only [St.stream, Option.bind_some, hobj]
          refine ⟨_, rfl, hInv _ ?_ (by simp [St.setObj, hcur]) rfl rfl⟩
          simp only [St.setObj, (http_handle_same s _).1, (http_handle_same s []).2]
          exact set_self _ _ _ hobj

theorem ev_data (d : Bytes) (hI : Inv st g) (hp : libPossibleAt st g (.data d) = true) :
    ∃ r, onLibEvBody cfg st o0 (.data d) = some r ∧ Inv r.1 g :=
  ev_body cfg st o0 g _ (.inl ⟨d, rfl⟩) hI hp

theorem ev_eom (hI : Inv st g) (hp : libPossibleAt st g .eom = true) :
    ∃ r, onLibEvBody cfg st o0 .eom = some r ∧ Inv r.1 g :=
  ev_body cfg st o0 g _ (.inr rfl) hI hp

/-- h11's reader side is in ERROR (RemoteProtocolError): nothing the protocol sends can raise, nothing restarts -/
theorem inv_err {st st' : St} {g : Ws.Frag} (hI : Inv st g) (hnws : st.wsMode = false)
    (ho : st'.objs = st.objs) (hc : st'.cur = st.cur) (hwm : st'.wsMode = st.wsMode)
    (ha : st'.lib.client = .error) (hd : st'.lib.waiting100 = false) : Inv st' g := by
  refine inv_frame hI ho hc hwm (fun h => by rw [ha] at h; cases h) (fun _ _ _ _ => Or.inl ha) ?_ (fun h => by rw [hd] at h; cases h)
  intro _ i s hcur hobj _ _
  have := (hI.wsObj i s hobj).1
  rw [hnws] at this; cases this

theorem ev_protoError (hint : Nat) (hI : Inv st g) (hw : st.lib.waiting100 = false ∨ st.wsMode = true)
    (hp : libPossibleAt st g (.protoError hint) = true) :
    escapeBody cfg st (.protoError hint) = none ∧ ∃ r, onLibEvBody cfg st o0 (.protoError hint) = some r ∧ Inv r.1 g := by
  have hnws : st.wsMode = false := by simpa [libPossibleAt] using hp
  have hwt : st.lib.waiting100 = false := by rcases hw with h | h; exact h; rw [hnws] at h; cases h
  have a := H11M.recvError_after st.lib
  have hwt1 : (H11M.recvError st.lib).waiting100 = false := by rw [a.2.2.1]; exact hwt
  have he : ([("content-length".b, "0".b), ("connection".b, "close".b)] ++ cfg.serverHeaders) = errHeaders cfg := rfl
  simp only [onLibEvBody, escapeBody, he]
  by_cases hc : errIgnored { st with lib := H11M.recvError st.lib } = true
  · simp only [hc, if_true]
    exact ⟨trivial, _, rfl, inv_err hI hnws rfl rfl rfl a.1 hwt1⟩
  · simp only [hc, Bool.false_eq_true, if_false]
    by_cases hs : ((H11M.recvError st.lib).server == .idle || (H11M.recvError st.lib).server == .sendResponse) = true
    · simp only [hs, if_true]
      have f1 := libSend_step { st with lib := H11M.recvError st.lib }
        (.response hint (errHeaders cfg))
      have f2 := libSend_step (libSend { st with lib := H11M.recvError st.lib }
        (.response hint (errHeaders cfg))).1 .eom
      have sh1 := libSend_shape { st with lib := H11M.recvError st.lib }
        (.response hint (errHeaders cfg))
      have sh2 := libSend_shape (libSend { st with lib := H11M.recvError st.lib }
        (.response hint (errHeaders cfg))).1 .eom
      have c1 := f1.err a.1
      have c2 := f2.err c1
      have r1 := libSend_quiet { st with lib := H11M.recvError st.lib } (.response hint (errHeaders cfg)) a.1
      have r2 := libSend_quiet _ .eom c1
      refine ⟨by simp [r1, r2], _, rfl, ?_⟩
      refine inv_err hI hnws ?_ ?_ ?_ c2 ?_
      · simp only []; rw [sh2, sh1]
      · simp only []; rw [sh2, sh1]
      · simp only []; rw [sh2, sh1]
      · cases hx : (libSend (libSend { st with lib := H11M.recvError st.lib }
          (.response hint (errHeaders cfg))).1 .eom).1.lib.waiting100 with
        | false => rfl
        | true => have := f1.wait (f2.wait hx); simp only [] at this; rw [hwt1] at this; cases this
    · simp only [hs, Bool.false_eq_true, if_false]
      exact ⟨trivial, _, rfl, inv_err hI hnws rfl rfl rfl a.1 hwt1⟩

/-- the stream's own 404 (unknown server name) goes out from SEND_RESPONSE without a raise -/
theorem runHttp_404 (cfg : Cfg) (st : St) (h1 : st.lib.server = .sendResponse) :
    let r := runHttpEvs cfg st [.response 404 [("content-length".b, "0".b), ("connection".b, "close".b)], .endBody, .access (some 404), .spawnClose]
    r.2.2 = false ∧ r.1 = { st with lib := r.1.lib } ∧ LibStep st.lib r.1.lib ∧ r.1.lib.waiting100 = false := by
  have hfin : Extracted.Guards.h11FinalStatusCmp.eval 404 200 = true := by decide
  have hr := libSend_response_ok st 404 ([("content-length".b, "0".b), ("connection".b, "close".b)] ++ cfg.serverHeaders ++
      (if Extracted.Guards.h11KeepAliveCmp.eval st.keepAliveRequests cfg.keepAliveMax then [("connection".b, "close".b)] else [])) h1
  have hsb := hr.2.1 (fun h => by omega)
  have he := libSend_eom_ok _ hsb
  have f2 := libSend_step (libSend st (.response 404 ([("content-length".b, "0".b), ("connection".b, "close".b)] ++ cfg.serverHeaders ++
      (if Extracted.Guards.h11KeepAliveCmp.eval st.keepAliveRequests cfg.keepAliveMax then [("connection".b, "close".b)] else [])))).1 .eom
  simp only [runHttpEvs, httpStreamSend, Proto.Heads.h11Response, hfin, if_true, hr.1, Bool.false_eq_true, if_false, he]
  refine ⟨trivial, ?_, (libSend_step _ _).trans (libSend_step _ _), ?_⟩
  · rw [libSend_shape, libSend_shape st]
  · cases hx : (libSend (libSend st (.response 404 ([("content-length".b, "0".b), ("connection".b, "close".b)] ++ cfg.serverHeaders ++
        (if Extracted.Guards.h11KeepAliveCmp.eval st.keepAliveRequests cfg.keepAliveMax then [("connection".b, "close".b)] else [])))).1 .eom).1.lib.waiting100 with
    | false => rfl
    | true => have := f2.wait hx; rw [hr.2.2] at this; cases this

theorem runWs_spawnClose (cfg : Cfg) (st : St) : runWsEvs cfg st [.spawnClose] = (st, [Out.wsOther .spawnClose] ++ [], false) := by
  simp [runWsEvs, wsStreamSend]

theorem checkProtocol_h2c (r : ReqEv) (h : checkProtocol r = .h2c) : reqIsH2c r = true := by
  unfold checkProtocol at h
  split at h
  · rename_i hc; simp only [Bool.and_eq_true] at hc; exact hc.1
  · split at h <;> cases h

theorem ev_request (r : ReqEv) (hI : Inv st g) (hpc : st.pc = .inLoop) (hsw : st.switched = false)
    (hp : libPossibleAt st g (.request r) = true) (hdec : decodeSitesTotal = true) (hname : Ws.Handshake.NamesLowered) :
    escapeBody cfg st (.request r) = none ∧ ∃ res, onLibEvBody cfg st o0 (.request r) = some res ∧ Inv res.1 g := by
  simp only [libPossibleAt, Bool.and_eq_true, Bool.not_eq_true', Option.isSome_iff_exists] at hp
  obtain ⟨⟨hnws, lib', hl⟩, hwf⟩ := hp
  have b := H11M.recvRequest_after _ _ _ hl
  have hidle := H11M.recvRequest_idle _ _ _ hl
  have hupg : (reqIsH2c r || isWebsocketRequest r) = true → lib'.pendUpgrade = true := by
    intro h
    have hwf' := hwf
    simp only [hdrWf, Bool.and_eq_true, List.all_eq_true, beq_iff_eq] at hwf'
    exact b.2.1 (upgrade_seen r hwf'.1 h)
  have hin : ∀ (j : Nat) (o' : Stream), st.objs[j]? = some o' → Inert o' := by
    intro j o' h
    rcases hI.objs j o' h with h' | h'
    · exact h'
    · exact absurd hidle h'.2
  -- a switch to HTTP/2: the objects stay as they are (all inert), this protocol object is not used again
  have hswitch : ∀ st' : St, st'.objs = st.objs → st'.cur = st.cur → st'.wsMode = st.wsMode → st'.switched = true → Inv st' g := by
    intro st' ho hc hwm hs
    refine inv_frame hI ho hc hwm (fun _ => hidle) ?_ ?_ (fun _ _ h => by rw [hs] at h; cases h)
    · intro i s h hst; exact absurd (hin i _ h).1 hst
    · intro _ i s _ h _ hcl; have := hin i _ h; simp [Inert, hcl] at this
  have hnb : H11M.NotBad lib'.server := by rw [b.1]; exact ⟨by decide, by decide, by decide⟩
  simp only [onLibEvBody, escapeBody, hl, decodeRaises_false hdec, Bool.or_self, Bool.false_eq_true, if_false]
  cases hcp : checkProtocol r with
  | h2c =>
    simp only []
    have hok := libSend_info_ok { st with lib := lib', requestComplete := false } 101
      (cfg.serverHeaders ++ [("connection".b, "upgrade".b), ("upgrade".b, "h2c".b)]) b.1
      (fun _ => hupg (by simp [checkProtocol_h2c r hcp]))
    refine ⟨by simp [hok.1], _, rfl, hswitch _ ?_ ?_ ?_ rfl⟩
    · simp only []; rw [libSend_shape]
    · simp only []; rw [libSend_shape]
    · simp only []; rw [libSend_shape]
  | prior => simp only []; exact ⟨trivial, _, rfl, hswitch _ rfl rfl rfl rfl⟩
  | none =>
    simp only []
    by_cases hw : isWebsocketRequest r = true
    · -- a WebSocket handshake
      simp only [hw, if_true]
      obtain ⟨s, puts, evs, heq, hacc, hconn, hbuf, hst, hcases⟩ :=
        ws_onRequest_ok hname cfg.wsMaxLen (scopeOf cfg r true).version (scopeOf cfg r true).headers
          (validServerName cfg (scopeOf cfg r true).headers) cfg.pingInterval (ws_request_has_upgrade cfg r hw hwf)
      simp only [heq]
      have hokS : Ws.Ok s := fun h => by rw [hacc] at h; cases h
      have hbufS : Ws.BufRel none s.buffer := by rw [hbuf]; exact Ws.bufRel_fresh _
      rcases hcases with ⟨hcl, status, hstatus, hevs⟩ | ⟨hcl, hevs⟩
      · -- answered by the stream itself (404 / 400), closed
        subst hevs
        have hfin : Extracted.Guards.h11FinalStatusCmp.eval status 200 = true := by rcases hstatus with rfl | rfl <;> decide
        have hns : ¬ (200 ≤ status ∧ status < 300) := by rcases hstatus with rfl | rfl <;> omega
        rw [runWsEvs_append, runWs_spawnClose]
        have hpl : ∀ e ∈ Ws.errorResponse status, WPlain e := by simp [Ws.errorResponse, WPlain]
        have hp := runWs_plain cfg (Ws.errorResponse status)
          { (St.newObj { st with lib := lib', requestComplete := false } (Stream.ws s)) with
            wsMode := true, spawns := if s.hasAppPut then st.spawns + 1 else st.spawns } hpl
        have hnr := runWs_errorResponse_ok cfg
          { (St.newObj { st with lib := lib', requestComplete := false } (Stream.ws s)) with
            wsMode := true, spawns := if s.hasAppPut then st.spawns + 1 else st.spawns } status b.1 hfin hns
        simp only [hnr, Bool.false_eq_true, if_false]
        refine ⟨trivial, _, rfl, ?_⟩
        refine inv_newObj hI hidle hnws (.ws s) ?_ ?_ ?_ ⟨?_, hokS, hbufS, fun _ h => by rw [hcl] at h; cases h⟩ ?_
        · simp only []; rw [hp.shape]; rfl
        · simp only []; rw [hp.shape]; rfl
        · simp only []; intro h; exact b.2.2 (hp.step.idle h)
        · simp only []; rw [hp.shape]
        · simp only []; intro _ h; rw [hp.shape] at h; cases h
      · -- the application is started
        subst hevs
        simp only [runWsEvs, Bool.false_eq_true, if_false]
        refine ⟨trivial, _, rfl, ?_⟩
        refine inv_newObj hI hidle hnws (.ws s) rfl rfl b.2.2 ⟨rfl, hokS, hbufS, fun _ _ => ⟨b.1, hupg (by simp [hw])⟩⟩ ?_
        intro _ h; cases h
    · -- an HTTP request
      simp only [hw, Bool.false_eq_true, if_false]
      by_cases hok : validServerName cfg (scopeOf cfg r false).headers = true
      · simp only [hok, if_true]
        refine ⟨trivial, _, rfl, ?_⟩
        refine inv_newObj hI hidle hnws (.http _) rfl rfl b.2.2 ⟨fun h => by simp at h, fun _ => Or.inr hnb⟩ ?_
        intro _ _ _; exact ⟨b.1, hpc⟩
      · simp only [hok, Bool.false_eq_true, if_false, Bool.not_false]
        have h404 := runHttp_404 cfg ({ (St.newObj { st with lib := lib', requestComplete := false }
          (.http { method := (scopeOf cfg r false).method, version := (scopeOf cfg r false).version, reqHeaders := (scopeOf cfg r false).headers,
                   hasAppPut := false, closed := true, st := .closed })) with spawns := st.spawns }) b.1
        simp only [] at h404
        obtain ⟨hnr, hshape, hstep, hwt⟩ := h404
        simp only [hnr, Bool.false_eq_true, if_false]
        refine ⟨trivial, _, rfl, ?_⟩
        refine inv_newObj hI hidle hnws
          (.http { method := (scopeOf cfg r false).method, version := (scopeOf cfg r false).version, reqHeaders := (scopeOf cfg r false).headers,
                   hasAppPut := false, closed := true, st := .closed }) ?_ ?_ ?_
          ⟨fun h => (by rcases h with h | h <;> cases h), fun h => absurd rfl h⟩ ?_
        · simp only []; rw [hshape]; rfl
        · simp only []; rw [hshape]; rfl
        · simp only []; intro h; exact b.2.2 (hstep.idle h)
        · simp only []; intro h; rw [hwt] at h; cases h

/-- frames to write and `StreamClosed` never raise and keep the invariant -/
theorem runWs_quiet (cfg : Cfg) (g : Ws.Frag) (b : Bool) : ∀ (evs : List Ws.Ev) (st : St), (∀ e ∈ evs, Ws.QuietEv e) → InvX b st g →
    (runWsEvs cfg st evs).2.2 = false ∧ InvX b (runWsEvs cfg st evs).1 g := by
  intro evs
  induction evs with
  | nil => intro st _ h; exact ⟨rfl, h⟩
  | cons e es ih =>
    intro st hq hI
    have he := hq e (by simp)
    have hes : ∀ e' ∈ es, Ws.QuietEv e' := fun e' h => hq e' (by simp [h])
    cases e with
    | data o =>
      simp only [runWsEvs, wsStreamSend, Bool.false_eq_true, if_false]
      exact ih st hes hI
    | streamClosed =>
      simp only [runWsEvs, wsStreamSend, Bool.false_eq_true, if_false]
      exact ih _ hes (inv_maybeRecycle hI)
    | response _ _ => exact absurd he id
    | body _ => exact absurd he id
    | endBody => exact absurd he id
    | endData => exact absurd he id
    | access _ => exact absurd he id
    | spawnPings => exact absurd he id
    | spawnClose => exact absurd he id

/-- `handle(Data)`: frames / `StreamClosed` only and the stream stays open or closed as it was — or the 400 for early data, after
    which the stream is closed -/
theorem handle_data_cases (s : Ws.S) (evs : List Ws.WsEv) :
    ((∀ e ∈ (Ws.handle s (.data evs)).2.2.1, Ws.QuietEv e) ∧ (Ws.handle s (.data evs)).1.closed = s.closed) ∨
    (s.closed = false ∧ s.hs.accepted = false ∧ s.st = .handshake ∧ (Ws.handle s (.data evs)).1 = { s with closed := true } ∧
      (Ws.handle s (.data evs)).2.2.1 = Ws.errorResponse 400 ++ [.spawnClose]) := by
  have h := Ws.handled_handle s (.data evs)
  generalize Ws.handle s (.data evs) = o at h ⊢
  cases h with
  | closed | ignored => exact .inl ⟨by simp, rfl⟩
  | early hcl hacc hst => exact .inr ⟨hcl, hacc, hst, rfl, rfl⟩
  | events => exact .inl ⟨Ws.handleEvents_quiet evs s, Ws.handleEvents_closed evs s⟩

theorem ev_wsData (d : Bytes) (evs : List Ws.WsEv) (hI : Inv st g) (hp : libPossibleAt st g (.wsData d evs) = true) :
    escapeBody cfg st (.wsData d evs) = none ∧ ∃ res, onLibEvBody cfg st o0 (.wsData d evs) = some res ∧ Inv res.1 (Ws.evsNext g evs) := by
  simp only [libPossibleAt, Bool.and_eq_true] at hp
  obtain ⟨hwm, hp2⟩ := hp
  have hidleCase : curWs st = none → (st.cur = none ∨ ∀ i, st.cur = some i → ∀ s, st.objs[i]? ≠ some (Stream.ws s)) →
      escapeBody cfg st (.wsData d evs) = none ∧ ∃ res, onLibEvBody cfg st o0 (.wsData d evs) = some res ∧ Inv res.1 (Ws.evsNext g evs) := by
    intro hcw hno
    have hevs : evs = [] := by simpa [hcw] using hp2
    subst hevs
    have hst : ∀ i s, ¬ (st.cur = some i ∧ st.stream = some (Stream.ws s)) := by
      intro i s ⟨h1, h2⟩
      simp [curWs, h2] at hcw
    simp only [onLibEvBody, escapeBody, Ws.evsNext]
    split
    · rename_i i s h1 h2; exact absurd ⟨h1, h2⟩ (hst i s)
    · split
      · rename_i i s h1 h2; exact absurd ⟨h1, h2⟩ (hst i s)
      · exact ⟨rfl, _, rfl, inv_reader hI (Or.inr hwm) rfl rfl rfl rfl⟩
  cases hcur : st.cur with
  | none => exact hidleCase (by simp [curWs, St.stream, hcur]) (Or.inl hcur)
  | some i =>
    cases hobj : st.objs[i]? with
    | none => exact hidleCase (by simp [curWs, St.stream, hcur, hobj]) (Or.inr fun j hj s => by rw [hcur] at hj; cases hj; rw [hobj]; simp)
    | some o =>
      cases o with
      | http s => exact hidleCase (by simp [curWs, St.stream, hcur, hobj]) (Or.inr fun j hj s' => by rw [hcur] at hj; cases hj; rw [hobj]; simp)
      | ws s =>
        have hcw : curWs st = some s := by simp [curWs, St.stream, hcur, hobj]
        have hdata : Ws.dataOk g s evs = true := by simpa [hcw] using hp2
        obtain ⟨hwm', hok⟩ := hI.wsObj i s hobj
        have hlast := hI.curLast i hcur
        have H := Ws.handle_data_total s g evs hok (hI.buf i s hcur hobj) hdata
        have hstream : st.stream = some (Stream.ws s) := by simp [St.stream, hcur, hobj]
        have hclient : s.closed = true ∨ st.lib.client ≠ .idle := by
          rcases hI.objs i _ hobj with h | h
          · exact Or.inl h
          · exact Or.inr h.2
        -- the flag and the final state
        have key : (runWsEvs cfg (st.setObj i (.ws (Ws.handle s (.data evs)).1)) (Ws.handle s (.data evs)).2.2.1).2.2 = false ∧
            Inv (runWsEvs cfg (st.setObj i (.ws (Ws.handle s (.data evs)).1)) (Ws.handle s (.data evs)).2.2.1).1 (Ws.evsNext g evs) := by
          rcases handle_data_cases s evs with ⟨hq, hcl⟩ | ⟨hcl, hacc, hst, hs', hev⟩
          · have hI2 : Inv (st.setObj i (.ws (Ws.handle s (.data evs)).1)) (Ws.evsNext g evs) := by
              have := inv_setWs (b' := true) hI i s (Ws.handle s (.data evs)).1 st.lib hobj hlast H.2.1 H.2.2.1 (fun h => by rw [← hcl]; exact h)
                (by rcases hclient with h | h; exact Or.inl (by rw [hcl]; exact h); exact Or.inr h) id
                (fun _ hc hst hcl' => hI.hand rfl i s hc hobj (by rw [← H.2.2.2.2]; exact hst) (by rw [← hcl]; exact hcl'))
              exact this
            exact runWs_quiet cfg _ true _ _ hq hI2
          · have hevs : evs = [] := by simpa [Ws.dataOk, hcl, hacc] using hdata
            subst hevs
            have h0 := hI.hand rfl i s hcur hobj hst hcl
            rw [hs', hev, runWsEvs_append, runWs_spawnClose]
            have hpl : ∀ e ∈ Ws.errorResponse 400, WPlain e := by simp [Ws.errorResponse, WPlain]
            have hp := runWs_plain cfg (Ws.errorResponse 400) (st.setObj i (.ws { s with closed := true })) hpl
            have hnr := runWs_errorResponse_ok cfg (st.setObj i (.ws { s with closed := true })) 400 h0.1 (by decide) (by omega)
            simp only [hnr, Bool.false_eq_true, if_false]
            refine ⟨trivial, ?_⟩
            rw [hp.shape]
            exact inv_setWs (b' := true) hI i s { s with closed := true } _ hobj hlast (fun h => hok h) (hI.buf i s hcur hobj)
              (fun h => by cases h) (Or.inl rfl) hp.step.idle (fun _ _ _ h => by cases h)
        simp only [onLibEvBody, escapeBody, hcur, hstream, H.1, key.1, Bool.false_eq_true, if_false]
        refine ⟨trivial, ?_⟩
        split
        · exact ⟨_, rfl, key.2⟩
        · exact ⟨_, rfl, key.2⟩

end body

end HC.Proto.H11
