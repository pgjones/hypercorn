import HC.Proto.H11Moves
/-!
# Facts about `H11Protocol` that depend only on (`request_complete`, the h11 connection state)

`Closed P`: a predicate on the pair (`self.request_complete`, h11 state) that every library call the protocol makes
preserves (a `Request` event establishes `P false`, an `EndOfMessage` event `P true`).  `step_closed`: such a predicate
holds along every op sequence of the protocol model (by case analysis on the moves of an op, `H11.step_moves`; three
instances are used in `HC/Props/C06.lean`: keep-alive off is permanent; keep-alive off keeps h11's writer out of DONE;
`request_complete` implies the reader side is past the request body).
-/
namespace HC.Proto.H11Close
open HC HC.Stream HC.Lib HC.Proto.H11 HC.Extracted.H11Tables

/-- `P b s` (`b`: `request_complete`) survives every call `H11Protocol` makes into h11; the two that assign the flag
    establish `P false` (`Request`) and `P true` (`EndOfMessage`) -/
structure Closed (P : Bool → H11M.St → Prop) : Prop where
  sendInfo : ∀ b s n s', P b s → H11M.sendInfo s n = some s' → P b s'
  sendResponse : ∀ b s r s', P b s → H11M.sendResponse s r = some s' → P b s'
  sendData : ∀ b s s', P b s → H11M.sendData s = some s' → P b s'
  sendEom : ∀ b s s', P b s → H11M.sendEom s = some s' → P b s'
  sendFailed : ∀ b s, P b s → P b (H11M.sendFailed s)
  startNextCycle : ∀ b s s', P b s → H11M.startNextCycle s = some s' → P b s'
  recvError : ∀ b s, P b s → P b (H11M.recvError s)
  recvClosed : ∀ b s s', P b s → H11M.recvClosed s = some s' → P b s'
  recvData : ∀ b s s', P b s → H11M.recvData s = some s' → P b s'
  recvEom : ∀ b s s', P b s → H11M.recvEom s = some s' → P true s' ∧ P b s'
  recvRequest : ∀ b s r s', P b s → H11M.recvRequest s r = some s' → P false s'

def R (P : Bool → H11M.St → Prop) (st : St) : Prop := P st.requestComplete st.lib

variable {P : Bool → H11M.St → Prop}

/-- an accepted `send`, or `send_failed` after a refused one -/
theorem Closed.call (hC : Closed P) {b : Bool} {s s' : H11M.St} (h : H11M.LibCall s s') (hp : P b s) : P b s' := by
  cases h with
  | info h => exact hC.sendInfo _ _ _ _ hp h
  | response h => exact hC.sendResponse _ _ _ _ hp h
  | data h => exact hC.sendData _ _ _ hp h
  | eom h => exact hC.sendEom _ _ _ hp h
  | failed => exact hC.sendFailed _ _ hp

theorem closeStream_key (st : St) : (closeStream st).1.requestComplete = st.requestComplete ∧ (closeStream st).1.lib = st.lib := by
  rw [closeStream_shape]; exact ⟨rfl, rfl⟩

theorem sends_closed (hC : Closed P) {a b : St} (h : Sends a b) (ha : R P a) : R P b := by
  unfold R at *
  induction h with
  | frame h1 h2 _ _ _ _ => rw [h1, h2]; exact ha
  | trans _ _ ih1 ih2 => exact ih2 (ih1 ha)
  | call h => exact hC.call h ha
  | unsetCur => exact ha
  | recycle _ _ h => exact hC.startNextCycle _ _ _ ha h
  | setClosed => exact ha

theorem moves_closed (hC : Closed P) {a b : St} (h : Moves a b) (ha : R P a) : R P b := by
  induction h with
  | sends h => exact sends_closed hC h ha
  | trans _ _ ih1 ih2 => exact ih2 (ih1 ha)
  | recvError a => exact hC.recvError _ _ ha
  | recvClosed h => exact hC.recvClosed _ _ _ ha h
  | recvData h => exact hC.recvData _ _ _ ha h
  | recvEom set h =>
    cases set
    · exact (hC.recvEom _ _ _ ha h).2
    · exact (hC.recvEom _ _ _ ha h).1
  | @recvRequest a b r h hrc _ _ =>
    unfold R; rw [hrc]; exact hC.recvRequest _ _ _ _ ha h

/-- **a `Closed` predicate is preserved by every op** -/
theorem step_closed (hC : Closed P) (cfg : Cfg) (token : Bytes → Bytes) (ext : Option Bytes) (st st' : St) (op : Op) (outs : List Out)
    (err : Option PyErr) (hI : R P st) (hs : step cfg token ext st op = some (st', outs, err)) : R P st' :=
  moves_closed hC (step_moves cfg token ext st st' op outs err hs) hI

/-! ### instances -/

/-- with keep-alive off, one pass of the state-triggered transitions does not leave the writer in DONE -/
theorem firePair_off_server (pend : Bool) (c sv : HSt) : (H11M.firePair pend false c sv).2 ≠ .done :=
  H11M.firePair_forall (fun _ k _ _ r => k = false → r.2 ≠ .done) (by decide +kernel) pend false c sv rfl

/-- a writer that may not keep the connection alive does not rest in DONE (`_fire_state_triggered_transitions` moves it on to
    MUST_CLOSE) -/
def KA (s : H11M.St) : Prop := s.keepAlive = false → s.server ≠ .done

theorem fireOnce_KA (s : H11M.St) : KA (H11M.fireOnce s) := by
  intro hk
  have hk' : s.keepAlive = false := hk
  simp only [H11M.fireOnce, hk']
  exact firePair_off_server _ _ _

theorem fire_KA (s : H11M.St) : KA (H11M.fire s) := by
  unfold H11M.fire; exact fireOnce_KA _

theorem stepServer_KA (s s' : H11M.St) (k : EvKey) (h : H11M.stepServer s k = some s') : KA s' := by
  obtain ⟨_, _, rfl⟩ := H11M.stepServer_eq h; exact fire_KA _

theorem stepClient_KA (s s' : H11M.St) (k : EvKey) (h : H11M.stepClient s k = some s') : KA s' := by
  obtain ⟨_, _, rfl⟩ := H11M.stepClient_eq h; exact fire_KA _

theorem withWaiting_KA (s : H11M.St) (b : Bool) (h : KA s) : KA (s.withWaiting b) := h
theorem withReq_KA (s : H11M.St) (h c t : Bool) (hk : KA s) : KA (s.withReq h c t) := hk

/-- `KA` is established by whatever ran the state-triggered transitions last: every entry point ends with them, up to the
    100-continue flag and the request's own flags -/
theorem closed_KA : Closed (fun _ s => KA s) where
  sendInfo := by
    intro b s n s' _ h
    obtain ⟨s1, k, h1, _, rfl⟩ := H11M.sendInfo_eq h
    exact withWaiting_KA _ _ (stepServer_KA _ _ _ h1)
  sendResponse := by
    intro b s r s' _ h
    obtain ⟨s1, k, h1, _, rfl⟩ := H11M.sendResponse_eq h
    split
    · exact fire_KA _
    · exact withWaiting_KA _ _ (stepServer_KA _ _ _ h1)
  sendData := fun _ s s' _ h => stepServer_KA _ _ _ (H11M.sendData_eq h)
  sendEom := fun _ s s' _ h => stepServer_KA _ _ _ (H11M.sendEom_eq h)
  sendFailed := fun _ s _ => fire_KA _
  startNextCycle := by
    intro b s s' _ h
    obtain ⟨_, _, rfl⟩ := H11M.startNextCycle_eq h
    intro _; simp
  recvError := fun _ s _ => fire_KA _
  recvClosed := fun _ s s' _ h => stepClient_KA _ _ _ h
  recvData := by
    intro b s s' _ h
    obtain ⟨x, hx, rfl⟩ := H11M.recvData_eq h
    exact withWaiting_KA _ _ (stepClient_KA _ _ _ hx)
  recvEom := by
    intro b s s' _ h
    obtain ⟨x, hx, rfl⟩ := H11M.recvEom_eq h
    exact ⟨withWaiting_KA _ _ (stepClient_KA _ _ _ hx), withWaiting_KA _ _ (stepClient_KA _ _ _ hx)⟩
  recvRequest := by
    intro b s r s' _ h
    obtain ⟨s1, hs1, rfl⟩ := H11M.recvRequest_eq h
    obtain ⟨c, sv, _, _, rfl⟩ := H11M.stepRequest_eq hs1
    obtain ⟨x, hx, ha⟩ := H11M.afterRequest_cases (H11M.fire (((H11M.proposals s r).set .client c).set .server sv)) r
    have hxk : KA x := by
      rcases hx with rfl | rfl
      · exact withReq_KA _ _ _ _ (fire_KA _)
      · exact fire_KA _
    rcases ha with ha | ha <;> rw [ha]
    · exact hxk
    · exact withWaiting_KA _ _ hxk

/-! #### keep-alive, once off, stays off (h11 never turns it back on, not even at `start_next_cycle`) -/

theorem stepServer_keepAlive (s s' : H11M.St) (k : EvKey) (h : H11M.stepServer s k = some s') : s'.keepAlive = s.keepAlive := by
  obtain ⟨_, _, rfl⟩ := H11M.stepServer_eq h; simp

theorem stepClient_keepAlive (s s' : H11M.St) (k : EvKey) (h : H11M.stepClient s k = some s') : s'.keepAlive = s.keepAlive := by
  obtain ⟨_, _, rfl⟩ := H11M.stepClient_eq h; simp

theorem proposals_keepAlive (s : H11M.St) (r : H11M.ReqInfo) : (H11M.proposals s r).keepAlive = s.keepAlive := by
  unfold H11M.proposals
  by_cases hu : r.hasUpgrade = true <;> by_cases hc : r.isConnect = true <;> simp [hu, hc] <;> rfl

theorem closed_off : Closed (fun _ s => s.keepAlive = false) where
  sendInfo := by
    intro b s n s' hk h
    obtain ⟨s1, k, h1, _, rfl⟩ := H11M.sendInfo_eq h
    exact (stepServer_keepAlive _ _ _ h1).trans hk
  sendResponse := by
    intro b s r s' hk h
    obtain ⟨s1, k, h1, _, rfl⟩ := H11M.sendResponse_eq h
    split
    · simp [H11M.keepAliveDisabled]
    · exact (stepServer_keepAlive _ _ _ h1).trans hk
  sendData := fun _ s s' hk h => (stepServer_keepAlive _ _ _ (H11M.sendData_eq h)).trans hk
  sendEom := fun _ s s' hk h => (stepServer_keepAlive _ _ _ (H11M.sendEom_eq h)).trans hk
  sendFailed := by intro b s hk; simpa [H11M.sendFailed, H11M.processError] using hk
  startNextCycle := by
    intro b s s' hk h
    obtain ⟨_, _, rfl⟩ := H11M.startNextCycle_eq h
    exact hk
  recvError := by intro b s hk; simpa [H11M.recvError, H11M.processError] using hk
  recvClosed := fun _ s s' hk h => (stepClient_keepAlive _ _ _ h).trans hk
  recvData := by
    intro b s s' hk h
    obtain ⟨x, hx, rfl⟩ := H11M.recvData_eq h
    exact (stepClient_keepAlive _ _ _ hx).trans hk
  recvEom := by
    intro b s s' hk h
    obtain ⟨x, hx, rfl⟩ := H11M.recvEom_eq h
    exact ⟨(stepClient_keepAlive _ _ _ hx).trans hk, (stepClient_keepAlive _ _ _ hx).trans hk⟩
  recvRequest := by
    intro b s r s' hk h
    obtain ⟨s1, hs1, rfl⟩ := H11M.recvRequest_eq h
    obtain ⟨c, sv, _, _, rfl⟩ := H11M.stepRequest_eq hs1
    obtain ⟨x, hx, ha⟩ := H11M.afterRequest_cases (H11M.fire (((H11M.proposals s r).set .client c).set .server sv)) r
    have hxk : x.keepAlive = false := by
      rcases hx with rfl | rfl
      · simpa [H11M.St.withReq, proposals_keepAlive] using hk
      · simp [H11M.keepAliveDisabled]
    rcases ha with ha | ha <;> rw [ha] <;> exact hxk

/-- the application's (or the server's own) `connection: close` on a response head turns keep-alive off -/
theorem sendResponse_close_off (s s' : H11M.St) (r : H11M.RespInfo) (hc : r.connClose = true) (h : H11M.sendResponse s r = some s') :
    s'.keepAlive = false := by
  obtain ⟨s1, k, h1, _, rfl⟩ := H11M.sendResponse_eq h
  have : H11M.respAnnouncesClose s r = true := by simp [H11M.respAnnouncesClose, hc]
  rw [if_pos this]
  simp [H11M.keepAliveDisabled]

/-! #### `request_complete` implies h11's reader side is past the request body -/

theorem firePair_client_sb (pend ka : Bool) (c sv : HSt) : (H11M.firePair pend ka c sv).1 = .sendBody → c = .sendBody :=
  H11M.firePair_forall (fun _ _ c _ r => r.1 = .sendBody → c = .sendBody) (by decide +kernel) pend ka c sv

theorem fireOnce_client_sb (s : H11M.St) : (H11M.fireOnce s).client = .sendBody → s.client = .sendBody := by
  simp only [H11M.fireOnce]; exact firePair_client_sb _ _ _ _

theorem fire_client_sb (s : H11M.St) : (H11M.fire s).client = .sendBody → s.client = .sendBody :=
  H11M.fire_of_fireOnce (T := fun a b => b.client = .sendBody → a.client = .sendBody) (fun h1 h2 h => h1 (h2 h)) fireOnce_client_sb s

/-- of the client-side events only `Request` (from IDLE) and `Data` (staying there) lead to SEND_BODY -/
theorem client_event_sb (st : HSt) (k : EvKey) (hk : k ≠ .request) (h : H11M.lookupEvent .client st k = some .sendBody) :
    st = .sendBody ∧ k = .data :=
  H11M.lookupEvent_forall (fun r st k t => r = .client → k ≠ .request → t = some .sendBody → st = .sendBody ∧ k = .data)
    (by decide +kernel) .client st k rfl hk h

theorem stepServer_client_sb (s s' : H11M.St) (k : EvKey) (h : H11M.stepServer s k = some s') :
    s'.client = .sendBody → s.client = .sendBody := by
  obtain ⟨_, _, rfl⟩ := H11M.stepServer_eq h
  intro hi
  simpa using fire_client_sb _ hi

theorem stepClient_client_sb (s s' : H11M.St) (k : EvKey) (hk : k ≠ .request) (h : H11M.stepClient s k = some s') :
    s'.client = .sendBody → s.client = .sendBody ∧ k = .data := by
  obtain ⟨c, hc, rfl⟩ := H11M.stepClient_eq h
  intro hi
  have : c = .sendBody := by simpa using fire_client_sb _ hi
  subst this
  exact client_event_sb _ _ hk hc

/-- `request_complete → their_state is not SEND_BODY` -/
def RC (b : Bool) (s : H11M.St) : Prop := b = true → s.client ≠ .sendBody

theorem closed_RC : Closed RC where
  sendInfo := by
    intro b s n s' hp h hb hi
    obtain ⟨s1, k, h1, _, rfl⟩ := H11M.sendInfo_eq h
    exact hp hb (stepServer_client_sb s s1 _ h1 hi)
  sendResponse := by
    intro b s r s' hp h hb hi
    obtain ⟨s1, k, h1, _, rfl⟩ := H11M.sendResponse_eq h
    have h0 : s1.client = .sendBody := by
      split at hi
      · exact fire_client_sb (s1.withWaiting false).withKeepAliveOff hi
      · exact hi
    exact hp hb (stepServer_client_sb s s1 _ h1 h0)
  sendData := fun _ s s' hp h hb hi => hp hb (stepServer_client_sb s s' _ (H11M.sendData_eq h) hi)
  sendEom := fun _ s s' hp h hb hi => hp hb (stepServer_client_sb s s' _ (H11M.sendEom_eq h) hi)
  sendFailed := by
    intro b s hp hb hi
    have := fire_client_sb _ (by simpa [H11M.sendFailed, H11M.processError] using hi)
    exact hp hb (by simpa using this)
  startNextCycle := by
    intro b s s' _ h _
    obtain ⟨_, _, rfl⟩ := H11M.startNextCycle_eq h
    simp
  recvError := by
    intro b s _ _ hi
    have := fire_client_sb _ (by simpa [H11M.recvError, H11M.processError] using hi)
    simp at this
  recvClosed := by
    intro b s s' hp h hb hi
    exact absurd (stepClient_client_sb s s' _ (by decide) h hi).2 (by decide)
  recvData := by
    intro b s s' hp h hb hi
    obtain ⟨x, hx, rfl⟩ := H11M.recvData_eq h
    exact hp hb (stepClient_client_sb s x _ (by decide) hx hi).1
  recvEom := by
    intro b s s' hp h
    obtain ⟨x, hx, rfl⟩ := H11M.recvEom_eq h
    have hne : (x.withWaiting false).client ≠ .sendBody := fun hi =>
      absurd (stepClient_client_sb s x _ (by decide) hx hi).2 (by decide)
    exact ⟨fun _ => hne, fun _ => hne⟩
  recvRequest := by
    intro b s r s' _ _ hb
    cases hb

end HC.Proto.H11Close
