import HC.Proto.H11Moves
import HC.Stream.WsTotal
import HC.Extracted.C04Sites
/-!
# H11Total — no library event makes an exception escape `H11Protocol`'s reader (lemmas for C04 `total_h1`)

`HC.Proto.H11.step` answers `none` for two different reasons: (a) the op is not one the libraries / the scheduler can
produce in that state (h11 does not yield a `Request` while its reader side is past IDLE, a read does not start while the
previous one is in progress, …) and (b) an exception would leave the connection handler.  This file, the first of the chain
H11Total → H11Inv → H11Run → H11Ev → H11Safe, separates them:

* `libPossible` — meaning (a) for library events, an executable predicate on (state, event);
* `escapeEv` — meaning (b): every place where an exception can leave `_handle_events`, *including* the places where `step`
  ignores the "raised" flag of `_send_h11_event` (the 100-continue at the loop top, the error response, the 101 of an h2c
  upgrade, the 404 / 400 a stream sends while handling `Request`).  `escapeBody` follows the control flow of
  `H11.onLibEvBody` branch by branch: the two are edited together, and `none_classified` here and the `ev_*` lemmas of
  `H11Ev` are what ties them;
* `none_classified` — every `none` of `onLibEv` is one of the two.

`H11Inv` has the invariant, `H11Run` and `H11Ev` its preservation by application sends and by library events, `H11Safe`
(`enabled`, `LibWf`, `NoEscape`) whole runs.
-/
namespace HC.Proto.H11
open HC HC.Stream HC.Lib HC.Extracted.H11Tables

/-- where an exception can leave the reader -/
inductive Escape where
  | continue100                    -- LocalProtocolError re-raised by `_send_h11_event` for the 100 Continue at the loop top
  | errorResponse                  -- … for `_send_error_response` after RemoteProtocolError
  | switch101                      -- … for the 101 of an h2c upgrade
  | streamAnswer                   -- … for the 404 / 400 a stream sends by itself while handling `Request`
  | wsHandshake (e : PyErr)        -- out of `WSStream.handle(Request)` (`Handshake.is_valid`)
  | wsHandle (e : PyErr)           -- out of `WSStream.handle(Data)` (`_handle_events`, `_send_wsproto_event`)
  | wsAnswer                       -- LocalProtocolError re-raised while `WSStream.handle(Data)` sends (the 400 for early data)
  | headerDecode                   -- UnicodeDecodeError / ValueError out of a partial decode of client bytes in the reader's own glue
deriving Repr, DecidableEq

/-! ## client-controlled bytes turned into text by the reader's own glue

`C04Sites.h11ReaderDecodes` (extracted on every run) lists every `.decode(…)` / `split_comma_header` / `int(…)` / base64 call in
`_handle_events`, `_check_protocol`, `_create_stream` and `H2CProtocolRequiredError.__init__` with its codec, what it is applied to
and what the enclosing `try`s catch.  A site is *total* when the codec is (latin-1 maps every byte), when the exception it raises is
caught there, or when it decodes a request-line field / header name, which h11's grammar has already restricted to ASCII
(`token`, `vchar+`, `HTTP/d.d`).  Any other site raises on a header value with a byte ≥ 0x80 — out of the connection handler. -/

abbrev DecodeSite := String × String × String × String × List String
def DecodeSite.fn (s : DecodeSite) : String := s.1
def DecodeSite.cls (s : DecodeSite) : String := s.2.1
def DecodeSite.header (s : DecodeSite) : String := s.2.2.1
def DecodeSite.codec (s : DecodeSite) : String := s.2.2.2.1
def DecodeSite.caught (s : DecodeSite) : List String := s.2.2.2.2

def codecTotal (c : String) : Bool := c == "latin1" || c == "latin-1" || c == "iso-8859-1" || c == "iso8859-1" || c == "l1"
def codecText (c : String) : Bool := c == "ascii" || c == "us-ascii" || c == "utf-8" || c == "utf8"
/-- the class the partial function raises (binascii.Error is a ValueError) -/
def raisedBy (c : String) : String := if c == "int" || c == "float" || c == "base64" then "ValueError" else "UnicodeDecodeError"
def siteCaught (s : DecodeSite) : Bool :=
  s.caught.any (fun c => ((HC.Extracted.C04Sites.classMro.lookup (raisedBy s.codec)).getD [raisedBy s.codec]).contains c)
def fieldAscii (cls : String) : Bool := cls == "method" || cls == "target" || cls == "version" || cls == "headerName"
def siteTotal (s : DecodeSite) : Bool := codecTotal s.codec || siteCaught s || (fieldAscii s.cls && codecText s.codec)

/-- a value the (non-total) site is applied to makes it raise -/
def valueBad (s : DecodeSite) (r : ReqEv) : Bool :=
  if s.cls == "headerValue" then
    r.headers.any (fun h => (s.header == "*" || Bytes.lower (Bytes.stripL1 h.1) == s.header.b) && !(codecText s.codec && Ws.isAscii h.2))
  else true

/-- some decode site of function `fn` raises on this request -/
def decodeRaises (fn : String) (r : ReqEv) : Bool :=
  HC.Extracted.C04Sites.h11ReaderDecodes.any (fun (s : DecodeSite) => s.fn == fn && !siteTotal s && valueBad s r)

/-- every extracted decode site of the reader's glue is total (the obligation `C04.h1_decode_sites_total` discharges by `decide`) -/
def decodeSitesTotal : Bool := HC.Extracted.C04Sites.h11ReaderDecodes.all siteTotal

theorem decodeRaises_false (h : decodeSitesTotal = true) (fn : String) (r : ReqEv) : decodeRaises fn r = false := by
  simp only [decodeRaises, List.any_eq_false]
  intro s hs
  have := List.all_eq_true.mp h s hs
  simp [this]

def errHeaders (cfg : Cfg) : Headers := [("content-length".b, "0".b), ("connection".b, "close".b)] ++ cfg.serverHeaders

/-- the current stream, when it is a WSStream -/
def curWs (st : St) : Option Ws.S := match st.stream with | some (.ws s) => some s | _ => none

/-- h11 hands header names over lower-cased and without surrounding whitespace, and `raw_items()` differs from the normalised list
    in the case of the names only -/
def hdrWf (r : ReqEv) : Bool :=
  r.headers.all (fun h => Bytes.lower h.1 == h.1 && Bytes.stripL1 h.1 == h.1) &&
  (r.rawHeaders.map (fun h => (Bytes.lower h.1, h.2)) == r.headers)

/-- meaning (a), library part: `next_event()` / `H11WSConnection.next_event()` / wsproto can produce this result in the
    state reached after the loop-top 100 Continue -/
def libPossibleAt (st : St) (g : Ws.Frag) : LibEv → Bool
  | .request r => !st.wsMode && (H11M.recvRequest st.lib (reqInfo r)).isSome && hdrWf r
  | .data _ => !st.wsMode && (H11M.recvData st.lib).isSome
  | .eom => !st.wsMode && (H11M.recvEom st.lib).isSome
  | .connClosed => !st.wsMode && (H11M.recvClosed st.lib).isSome
  | .needData => true
  | .paused => !st.wsMode
  | .protoError _ => !st.wsMode
  | .wsData _ evs => st.wsMode && (match curWs st with
      | some s => Ws.dataOk g s evs
      | none => evs.isEmpty)

def libPossible (cfg : Cfg) (st : St) (g : Ws.Frag) (e : LibEv) : Bool := libPossibleAt (loopTop cfg st).1 g e

/-- meaning (b), after the loop top: the exception (if any) that leaves `_handle_events` while it handles `e` in state `st` -/
def escapeBody (cfg : Cfg) (st : St) (e : LibEv) : Option Escape :=
  match e with
  | .protoError hint =>
    let st := { st with lib := H11M.recvError st.lib }
    if errIgnored st then none
    else if st.lib.server == .idle || st.lib.server == .sendResponse then
      if (libSend st (.response hint (errHeaders cfg))).2.2 || (libSend (libSend st (.response hint (errHeaders cfg))).1 .eom).2.2
      then some .errorResponse else none
    else none
  | .request r =>
    match H11M.recvRequest st.lib (reqInfo r) with
    | none => none
    | some lib' =>
      let st := { st with lib := lib', requestComplete := false }
      if decodeRaises "H11Protocol._handle_events" r || decodeRaises "H11Protocol._check_protocol" r then some .headerDecode else
      match checkProtocol r with
      | .h2c =>
        if (libSend st (.info 101 (cfg.serverHeaders ++ [("connection".b, "upgrade".b), ("upgrade".b, "h2c".b)]))).2.2 then some .switch101
        else if decodeRaises "H2CProtocolRequiredError.__init__" r then some .headerDecode else none
      | .prior => none
      | .none =>
        if decodeRaises "H11Protocol._create_stream" r then some .headerDecode else
        let ws := isWebsocketRequest r
        let sc := scopeOf cfg r ws
        if ws then
          match Ws.onRequest cfg.wsMaxLen sc.version sc.headers (validServerName cfg sc.headers) cfg.pingInterval with
          | .error e => some (.wsHandshake e)
          | .ok (s, _, evs) =>
            if (runWsEvs cfg { (st.newObj (.ws s)) with wsMode := true, spawns := if s.hasAppPut then st.spawns + 1 else st.spawns } evs).2.2
            then some .streamAnswer else none
        else if validServerName cfg sc.headers then none
        else
          let s : Http.S := { method := sc.method, version := sc.version, reqHeaders := sc.headers, hasAppPut := false, closed := true, st := .closed }
          if (runHttpEvs cfg { (st.newObj (.http s)) with spawns := st.spawns }
                [.response 404 [("content-length".b, "0".b), ("connection".b, "close".b)], .endBody, .access (some 404), .spawnClose]).2.2
          then some .streamAnswer else none
  | .wsData _ evs =>
    match st.cur, st.stream with
    | some i, some (.ws s) =>
      match (Ws.handle s (.data evs)).2.2.2 with
      | some e => some (.wsHandle e)
      | none =>
        if (runWsEvs cfg (st.setObj i (.ws (Ws.handle s (.data evs)).1)) (Ws.handle s (.data evs)).2.2.1).2.2 then some .wsAnswer else none
    | _, _ => none
  | _ => none

/-- meaning (b): the exception (if any) that leaves `_handle_events` in one iteration of its loop: the 100 Continue at the top,
    then the handling of `e` -/
def escapeEv (cfg : Cfg) (st0 : St) (e : LibEv) : Option Escape :=
  if st0.lib.waiting100 && !st0.wsMode && (libSend st0 (.info 100 cfg.serverHeaders)).2.2 then some .continue100
  else escapeBody cfg (loopTop cfg st0).1 e

/-! ## the protocol's own calls into h11 -/

/-- after `send(InformationalResponse | Response | Data)` — accepted or refused — the writer is not IDLE, DONE or MUST_CLOSE -/
theorem libSend_notBad (st : St) (e : LibSend) (he : e ≠ .eom) : H11M.NotBad (libSend st e).1.lib.server := by
  have herr : H11M.NotBad HSt.error := ⟨by decide, by decide, by decide⟩
  cases e with
  | info s hs =>
    simp only [libSend]; split
    · rename_i lib' h; exact (H11M.sendInfo_after _ _ _ h).1
    · simp only []; rw [(H11M.sendFailed_after _).1]; exact herr
  | response s hs =>
    simp only [libSend]; split
    · rename_i lib' h; exact (H11M.sendResponse_after _ _ _ h).1
    · simp only []; rw [(H11M.sendFailed_after _).1]; exact herr
  | data d =>
    simp only [libSend]; split
    · rename_i lib' h; exact (H11M.sendData_after _ _ h).1
    · simp only []; rw [(H11M.sendFailed_after _).1]; exact herr
  | eom => exact absurd rfl he

/-- no `send` moves the reader side to IDLE or out of ERROR, raises the 100-continue flag, or fails silently unless the reader
    side is in ERROR; one that raised left the writer in ERROR -/
theorem libSend_facts (st : St) (e : LibSend) :
    ((libSend st e).1.lib.client = .idle → st.lib.client = .idle) ∧
    (st.lib.client = .error → (libSend st e).1.lib.client = .error) ∧
    ((libSend st e).1.lib.waiting100 = true → st.lib.waiting100 = true) ∧
    ((libSend st e).2.2 = true → (libSend st e).1.lib.server = .error) ∧
    (st.lib.client = .error → (libSend st e).2.2 = false) := by
  obtain ⟨lib', he, hc, hr⟩ := libSend_call st e
  rw [he]
  refine ⟨hc.after.1, hc.after.2.1, hc.after.2.2, fun h => ?_, fun h => ?_⟩
  · rw [(hr h).1]; exact (H11M.sendFailed_after st.lib).1
  · -- a refusal is re-raised only while the reader side is not in ERROR, and no call takes it out of ERROR
    cases hf : (libSend st e).2.2
    · rfl
    · exact absurd (hc.after.2.1 h) (hr hf).2

/-- a `send` that was re-raised left the writer in ERROR -/
theorem libSend_raised (st : St) (e : LibSend) (h : (libSend st e).2.2 = true) : (libSend st e).1.lib.server = .error :=
  (libSend_facts st e).2.2.2.1 h

/-- with the reader side in ERROR no refusal is re-raised -/
theorem libSend_quiet (st : St) (e : LibSend) (h : st.lib.client = .error) : (libSend st e).2.2 = false :=
  (libSend_facts st e).2.2.2.2 h

/-- a response head sent from SEND_RESPONSE is accepted; unless it is the 2xx answer to a CONNECT the writer is then in SEND_BODY -/
theorem libSend_response_ok (st : St) (status : Nat) (hs : Headers) (h : st.lib.server = .sendResponse) :
    (libSend st (.response status hs)).2.2 = false ∧
    (¬ (st.lib.pendConnect = true ∧ 200 ≤ status ∧ status < 300) → (libSend st (.response status hs)).1.lib.server = .sendBody) ∧
    (libSend st (.response status hs)).1.lib.waiting100 = false := by
  obtain ⟨s', h1, h2⟩ := H11M.sendResponse_ok st.lib (respInfo status hs) h
  have a := H11M.sendResponse_after _ _ _ h1
  simp only [libSend, h1]
  exact ⟨trivial, fun hc => h2 (by simpa [respInfo] using hc), a.2.1⟩

theorem libSend_info_ok (st : St) (status : Nat) (hs : Headers) (h : st.lib.server = .sendResponse)
    (hn : status = 101 → st.lib.pendUpgrade = true) :
    (libSend st (.info status hs)).2.2 = false ∧ (libSend st (.info status hs)).1.lib.waiting100 = false ∧
    (status ≠ 101 → (libSend st (.info status hs)).1.lib.server = .sendResponse ∧
      (libSend st (.info status hs)).1.lib.pendUpgrade = st.lib.pendUpgrade) := by
  obtain ⟨s', h1, h2, h3⟩ := H11M.sendInfo_ok st.lib status h hn
  have a := H11M.sendInfo_after _ _ _ h1
  simp only [libSend, h1]
  exact ⟨trivial, a.2.1, fun hne => ⟨by rw [h2, if_neg hne], h3⟩⟩

theorem libSend_eom_ok (st : St) (h : st.lib.server = .sendBody) : (libSend st .eom).2.2 = false := by
  obtain ⟨s', h1⟩ := H11M.sendEom_ok st.lib h
  simp only [libSend, h1]

theorem libSend_data_ok (st : St) (d : Bytes) (h : st.lib.server = .sendBody) :
    (libSend st (.data d)).2.2 = false ∧ (libSend st (.data d)).1.lib.server = .sendBody := by
  obtain ⟨s', h1, h2⟩ := H11M.sendData_ok st.lib h
  simp only [libSend, h1]
  exact ⟨trivial, h2⟩

/-! ## every `none` is one of the two meanings -/

theorem loopTop_shape (cfg : Cfg) (st : St) : (loopTop cfg st).1 = { st with lib := (loopTop cfg st).1.lib } := by
  unfold loopTop; split
  · exact libSend_shape _ _
  · rfl

theorem loopTop_objs (cfg : Cfg) (st : St) : (loopTop cfg st).1.objs = st.objs ∧ (loopTop cfg st).1.wsMode = st.wsMode ∧
    (loopTop cfg st).1.cur = st.cur := by
  rw [loopTop_shape]; exact ⟨rfl, rfl, rfl⟩

/-- whenever the model's reader step answers `none` (what the driver reports as "rejected"), either the op
    was not enabled (the reader is not in its loop, the protocol was switched, the library cannot produce this result here)
    or an exception leaves the handler at one of the places `escapeEv` names -/
theorem none_classified (cfg : Cfg) (st : St) (g : Ws.Frag) (e : LibEv)
    (hws : ∀ (i : Nat) (s : Ws.S), st.objs[i]? = some (Stream.ws s) → st.wsMode = true) (h : onLibEv cfg st e = none) :
    st.pc ≠ .inLoop ∨ st.switched = true ∨ libPossible cfg st g e = false ∨ (escapeEv cfg st e).isSome = true := by
  unfold onLibEv at h
  split at h
  · rename_i hc
    simp only [bne_iff_ne, ne_eq, Bool.or_eq_true] at hc
    rcases hc with hc | hc
    · exact Or.inl hc
    · exact Or.inr (Or.inl hc)
  · right; right
    by_cases htop : (st.lib.waiting100 && !st.wsMode && (libSend st (.info 100 cfg.serverHeaders)).2.2) = true
    · right; simp [escapeEv, htop]
    · have hobjs := loopTop_objs cfg st
      have hws' : ∀ (i : Nat) (s : Ws.S), (loopTop cfg st).1.objs[i]? = some (Stream.ws s) → (loopTop cfg st).1.wsMode = true := by
        intro i s hi; rw [hobjs.2.1]; rw [hobjs.1] at hi; exact hws i s hi
      unfold escapeEv libPossible
      rw [if_neg htop]
      generalize (loopTop cfg st).1 = st1 at h hws' ⊢
      generalize (loopTop cfg st).2 = o0 at h
      unfold escapeBody
      cases e with
      | protoError hint =>
        -- the error path, PAUSED and NEED_DATA are handled in every state
        have : (onLibEvBody cfg st1 o0 (.protoError hint)).isSome = true := by
          simp only [onLibEvBody]; split <;> rfl
        rw [h] at this; cases this
      | paused =>
        have : (onLibEvBody cfg st1 o0 .paused).isSome = true := by simp only [onLibEvBody]; split <;> rfl
        rw [h] at this; cases this
      | needData => cases h
      | request r =>
        simp only [onLibEvBody] at h
        cases hr : H11M.recvRequest st1.lib (reqInfo r) with
        | none => left; simp [libPossibleAt, hr]
        | some lib' =>
          simp only [hr] at h
          right
          simp only [hr]
          cases hp : checkProtocol r with
          | h2c => simp only [hp] at h; cases h
          | prior => simp only [hp] at h; cases h
          | none =>
            simp only [hp] at h ⊢
            by_cases hw : isWebsocketRequest r = true
            · simp only [hw, if_true] at h ⊢
              split at h
              · rename_i e' he'
                simp only [he']
                split
                · rfl
                · split <;> rfl
              · cases h
            · simp only [hw, Bool.false_eq_true, if_false] at h
              cases h
      | connClosed =>
        simp only [onLibEvBody] at h
        cases hr : H11M.recvClosed st1.lib with
        | none => left; simp [libPossibleAt, hr]
        | some lib' => simp only [hr] at h; cases h
      | data _ | eom =>
        -- h11 refused the event, or the current stream is a WSStream: not in WebSocket mode
        left
        simp only [onLibEvBody] at h
        simp only [libPossibleAt]
        split at h
        · rename_i hr; simp [hr]
        · split at h
          · cases h
          · rename_i i s hcur hstream
            simp only [St.stream, hcur, Option.bind_some] at hstream
            simp [hws' i _ hstream]
          · cases h
      | wsData d evs =>
        right
        simp only [onLibEvBody] at h
        split at h
        · rename_i i s hcur hstream
          simp only [hcur, hstream]
          rcases hh : Ws.handle s (.data evs) with ⟨s', puts, wevs, err⟩
          simp only [hh] at h ⊢
          cases err with
          | some e' => rfl
          | none =>
            simp only at h ⊢
            split at h
            · rename_i hr; simp [hr]
            · split at h <;> simp at h
        · simp at h

end HC.Proto.H11
