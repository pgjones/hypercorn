import HC.Proto.H2Deliver
/-!
# H2DeliverInv — frame conditions of `HC.Proto.H2Recv.step` and the delivery lemmas behind `HC.Props.C01.h2_request_delivered`

For every operation of the receive-side model: which stream objects it can hand something to, whether it can return
flow-control credit, and what it does to the membership of `self.streams` — then, per wrapped step (`rxStep_spec`) and per run
(`deliveries`, `run_acks`).
-/
namespace HC.Proto.H2Deliver
open HC HC.Proto.H2Recv HC.Extracted

/-- the outputs that get decorated: something handed to a stream object, credit returned to h2 -/
def isDeliv : Out → Bool
  | .toStream _ _ => true
  | .h2call name _ _ => name == "acknowledge_received_data"
  | _ => false

def Quiet (o : List Out) : Prop := ∀ x ∈ o, isDeliv x = false
/-- the only outputs that get decorated are addressed to stream `j`'s object -/
def OnlyTo (j : Nat) (o : List Out) : Prop := ∀ x ∈ o, isDeliv x = true → ∃ w, x = Out.toStream j w

theorem quiet_nil : Quiet [] := by intro x hx; cases hx
theorem quiet_cons {x : Out} {o : List Out} (hx : isDeliv x = false) (ho : Quiet o) : Quiet (x :: o) := by
  intro y hy; rcases List.mem_cons.mp hy with rfl | h; exact hx; exact ho y h
theorem quiet_onlyTo {o : List Out} (j : Nat) (h : Quiet o) : OnlyTo j o := by
  intro x hx hd; rw [h x hx] at hd; cases hd
theorem onlyTo_append {j : Nat} {a b : List Out} (ha : OnlyTo j a) (hb : OnlyTo j b) : OnlyTo j (a ++ b) := by
  intro x hx; rcases List.mem_append.mp hx with h | h; exact ha x h; exact hb x h

/-- a piece that leaves `self.streams` alone and hands nothing over satisfies every frame condition -/
theorem quiet_frame {s s' : St} {o : List Out} (j : Nat) (hs : s'.streams = s.streams) (hq : Quiet o) :
    OnlyTo j o ∧ ∀ i, i ≠ j → (i ∈ s'.streams ↔ i ∈ s.streams) :=
  ⟨quiet_onlyTo j hq, fun _ _ => by rw [hs]⟩

theorem quiet_cons_iff {x : Out} {o : List Out} : Quiet (x :: o) ↔ isDeliv x = false ∧ Quiet o := by
  simp [Quiet]
theorem quiet_append_iff {a b : List Out} : Quiet (a ++ b) ↔ Quiet a ∧ Quiet b := by
  simp [Quiet, or_imp, forall_and]

/- `simp` decides `Quiet` of a list that is written out (up to the hypotheses about its variable parts) -/
attribute [local simp] quiet_nil quiet_cons_iff quiet_append_iff isDeliv

theorem decorate_quiet (op : RxOp) (x : Out) (h : isDeliv x = false) : decorate op x = none := by
  cases x <;> simp_all [decorate]

theorem filterMap_quiet (op : RxOp) (o : List Out) (h : Quiet o) : o.filterMap (decorate op) = [] := by
  simp only [List.filterMap_eq_nil_iff]
  intro x hx; exact decorate_quiet op x (h x hx)

/-! ### the `except` clauses this file's results depend on (cf. `HC.Props.C04`) -/

theorem catches_decode : catches C04Sites.h2CreateDecode .unicodeDecodeError = true :=
  catches_own (by simp [C04Sites.h2CreateDecode, Exn.cls])

theorem catches_data_keyError : catches C04Sites.h2EventsData .keyError = true :=
  catches_own (by simp [C04Sites.h2EventsData, Exn.cls])
theorem catches_ended_keyError : catches C04Sites.h2EventsEnded .keyError = true :=
  catches_own (by simp [C04Sites.h2EventsEnded, Exn.cls])

/-! ### the pieces that leave `self.streams` alone and hand nothing over -/

/-- the shape most pieces of the model share: `self.streams` as in `s`, nothing handed to a stream, no credit returned -/
def QuietP (s : St) (p : Partial) : Prop := p.1.streams = s.streams ∧ Quiet p.2.1

theorem quietP_andThen {s : St} {p : Partial} {k : St → List Out → Partial} (hp : QuietP s p)
    (hk : ∀ s1 o1, s1.streams = s.streams → Quiet o1 → QuietP s (k s1 o1)) : QuietP s (andThen p k) := by
  rcases andThen_cases p k with ⟨e, _, h⟩ | ⟨_, h⟩ <;> rw [h]
  · exact hp
  · exact hk _ _ hp.1 hp.2

theorem prioBlock_frame {s s' : St} {sid : Nat} {a : Bool} {o' : List Out} (h : prioBlock s sid a = .ok (s', o')) :
    s'.streams = s.streams ∧ Quiet o' := by
  simp only [prioBlock] at h
  split at h <;> cases h
  exact ⟨rfl, by simp⟩

theorem unblockAll_frame : ∀ (l : List Nat) (s : St) (o : List Out) (s' : St) (o' : List Out),
    unblockAll s l o = .ok (s', o') → Quiet o → s'.streams = s.streams ∧ Quiet o'
  | [], s, o, s', o', h, ho => by cases h; exact ⟨rfl, ho⟩
  | sid :: rest, s, o, s', o', h, ho => by
    simp only [unblockAll] at h
    split at h
    · cases h
    · next s1 o1 h1 =>
      obtain ⟨e1, q1⟩ := prioBlock_frame h1
      obtain ⟨e2, q2⟩ := unblockAll_frame rest _ _ _ _ h (quiet_append_iff.2 ⟨ho, q1⟩)
      exact ⟨e2.trans e1, q2⟩

theorem windowUpdated_frame {s s' : St} {sid : Nat} {o' : List Out} (h : windowUpdated s sid = .ok (s', o')) :
    s'.streams = s.streams ∧ Quiet o' := by
  unfold windowUpdated at h
  split at h
  · split at h
    · cases h
    · next h1 => cases h; obtain ⟨e, q⟩ := unblockAll_frame _ _ _ _ _ h1 quiet_nil; exact ⟨e, by simp [q]⟩
  · split at h
    · split at h
      · cases h
      · next h1 => cases h; obtain ⟨e, q⟩ := prioBlock_frame h1; exact ⟨e, by simp [q]⟩
    · cases h; exact ⟨rfl, by simp⟩

theorem priorityUpdated_frame {s s' : St} {sid dep : Nat} {rep ins : Option Exn} {pe : Bool} {o' : List Out}
    (h : priorityUpdated s sid dep rep ins pe = .ok (s', o')) : s'.streams = s.streams ∧ Quiet o' := by
  -- the outer `try`: the tree may have gained the parent, nothing else
  have outer : ∀ (e : Exn) (o : List Out), Quiet o →
      (if catches C04Sites.h2PrioOuter e = true then
        Except.ok ((if pe = true then { s with prio := prioParent s.prio dep } else s), o ++ [Out.hasData])
       else .error e) = Except.ok (s', o') → s'.streams = s.streams ∧ Quiet o' := by
    intro e o ho h
    split at h <;> cases h
    exact ⟨by split <;> rfl, by simp [ho]⟩
  unfold priorityUpdated at h
  cases rep with
  | none =>
    dsimp only at h
    split at h
    · cases h; exact ⟨rfl, by simp⟩
    · exact outer _ _ quiet_nil h
  | some e =>
    dsimp only at h
    split at h
    · cases ins with
      | none => cases h; exact ⟨rfl, by simp⟩
      | some e2 => exact outer _ _ (by simp) h
    · exact outer _ _ (by simp) h

theorem sendFirst_quiet (s : St) (sid : Nat) (o : SendOracle) : QuietP s (sendFirst s sid o) := by
  unfold sendFirst
  split
  · split <;> exact ⟨rfl, by simp⟩
  · split <;> exact ⟨rfl, by simp⟩

theorem sendFinish_quiet {s s1 : St} (go : Bool) (sid : Nat) (o : SendOracle) {o1 : List Out} (hs : s1.streams = s.streams)
    (hq : Quiet o1) : QuietP s (sendFinish go sid o s1 o1) := by
  unfold sendFinish
  split
  · split
    · exact ⟨hs, by simp [hq]⟩
    · dsimp only
      split <;> exact ⟨hs, by simp [hq]⟩
  · exact ⟨hs, hq⟩

theorem sendBody_frame (s : St) (sid : Nat) (o : SendOracle) : QuietP s (sendBody s sid o) := by
  rw [sendBody_eq]
  split
  · exact ⟨rfl, quiet_nil⟩
  · split
    · exact ⟨rfl, quiet_nil⟩
    · exact quietP_andThen (sendFirst_quiet s sid o) fun s1 o1 hs hq => sendFinish_quiet _ sid o hs hq

theorem sendCleanup_frame {s s' : St} {sid : Nat} {o0 o' : List Out} (h0 : Quiet o0)
    (h : sendCleanup s sid o0 = .ok (s', o')) : s'.streams = s.streams ∧ Quiet o' := by
  unfold sendCleanup at h
  dsimp only at h
  split at h
  · cases h; exact ⟨rfl, by simp [h0]⟩
  · split at h <;> cases h
    refine ⟨rfl, by simp only [quiet_append_iff, h0, true_and]; simp [Quiet]⟩

theorem sendTask_frame {s s' : St} {n : NextRes} {o' : List Out} (h : sendTask s n = .ok (s', o')) :
    s'.streams = s.streams ∧ Quiet o' := by
  cases n with
  | deadlock => simp only [sendTask] at h; split at h <;> cases h; exact ⟨rfl, quiet_nil⟩
  | raised e => simp only [sendTask] at h; split at h <;> cases h; exact ⟨rfl, quiet_nil⟩
  | stream sid o =>
    obtain ⟨hs, hq⟩ := sendBody_frame s sid o
    rw [sendTask, sendData_eq_protect] at h
    rcases protect_inv h with ⟨rfl, rfl⟩ | hc
    · exact ⟨hs, hq⟩
    · obtain ⟨e1, q1⟩ := sendCleanup_frame hq hc
      exact ⟨e1.trans hs, q1⟩

theorem createEnter_frame {s s1 : St} {r : Req} {ins : Option Exn} {o1 : List Out}
    (h : createEnter s r ins = .ok (some (s1, o1))) : s1.streams = s.streams ∧ Quiet o1 := by
  unfold createEnter at h
  split at h
  · split at h <;> cases h
    exact ⟨rfl, by simp⟩
  · split at h
    · cases h; exact ⟨rfl, by simp⟩
    · split at h <;> cases h

/-- `_create_stream`, whatever becomes of the request: only stream `r.sid` can be created, only its object is handed anything -/
theorem createStream_frame {s s' : St} {r : Req} {ins lib : Option Exn} {o' : List Out}
    (h : createStream s r ins lib = .ok (s', o')) :
    OnlyTo r.sid o' ∧ ∀ i, i ≠ r.sid → (i ∈ s'.streams ↔ i ∈ s.streams) := by
  rw [createStream_eq] at h
  split at h
  · obtain ⟨rfl, rfl | rfl⟩ := errorResponse_inv h <;> exact quiet_frame _ rfl (by simp)
  · split at h
    · cases h
    · obtain ⟨v, hE, h⟩ := Except.bind_eq_ok.mp h
      cases v with
      | none =>
        dsimp only at h
        split at h
        · cases h; exact quiet_frame _ rfl (by simp)
        · split at h <;> cases h
          exact quiet_frame _ rfl (by simp)
      | some p =>
        obtain ⟨s1, o1⟩ := p
        obtain ⟨hs, hq⟩ := createEnter_frame hE
        dsimp only [createNew] at h
        split at h
        · cases h
        · split at h <;> cases h
          refine ⟨onlyTo_append (quiet_onlyTo _ hq) ?_, fun i hi => ?_⟩
          · intro x hx hd
            rcases List.mem_cons.mp hx with rfl | hx
            · cases hd
            · exact ⟨_, List.mem_singleton.mp hx⟩
          · simp only [mem_keysAdd, hs]
            exact ⟨fun h1 => h1.elim id (absurd · hi), Or.inl⟩

/-- … and when the request is one `_create_stream` accepts: the stream exists afterwards and its object was handed exactly the
    `Request` event -/
theorem createStream_accepted (s : St) (r : Req) (ins lib : Option Exn) (ha : accepts s r ins = true) :
    ∃ s' o', createStream s r ins lib = .ok (s', o') ∧ r.sid ∈ s'.streams ∧
      o'.filter isDeliv = [Out.toStream r.sid "request"] := by
  simp only [accepts, Bool.and_eq_true, Bool.not_eq_true', Bool.or_eq_true, beq_iff_eq] at ha
  obtain ⟨⟨⟨⟨⟨_, hm⟩, hma⟩, hp⟩, hpa⟩, hins⟩ := ha
  -- the tree takes the stream, or has it already
  obtain ⟨s1, o1, hE⟩ : ∃ s1 o1, createEnter s r ins = .ok (some (s1, o1)) := by
    rcases hins with ⟨rfl, h2⟩ | rfl
    · exact ⟨_, _, by dsimp only [createEnter]; rw [if_neg (by rw [h2]; exact Bool.false_ne_true)]⟩
    · have : catches C04Sites.h2CreateInsertPass .prioDuplicate = true :=
        catches_own (by simp [C04Sites.h2CreateInsertPass, Exn.cls])
      exact ⟨_, _, by dsimp only [createEnter]; rw [if_pos this]⟩
  have hq : o1.filter isDeliv = [] :=
    List.filter_eq_nil_iff.mpr fun x hx => by rw [(createEnter_frame hE).2 x hx]; exact Bool.false_ne_true
  refine ⟨{ s1 with streams := keysAdd s1.streams r.sid, buffers := keysAdd s1.buffers r.sid, kar := s1.kar + 1 },
    o1 ++ [.spawnStream r.sid r.isConnect, .toStream r.sid "request"], ?_, by simp [mem_keysAdd], by simp [List.filter_append, hq]⟩
  rw [createStream_eq]
  simp [hm, hma, hp, hpa, hE, createNew, streamRequest, bind, Except.bind]

theorem closeStream_frame (s : St) (sid : Nat) :
    OnlyTo sid (closeStream s sid).2 ∧ (∀ i, i ≠ sid → (i ∈ (closeStream s sid).1.streams ↔ i ∈ s.streams)) := by
  unfold closeStream
  split
  · refine ⟨?_, fun i hi => by simp only [mem_keysDel]; exact ⟨fun h => h.1, fun h => ⟨h, hi⟩⟩⟩
    intro x hx hd
    rcases List.mem_cons.mp hx with rfl | hx
    · exact ⟨_, rfl⟩
    · rw [List.mem_singleton.mp hx] at hd; cases hd
  · exact quiet_frame _ rfl quiet_nil

theorem resetAbandoned_quiet (s : St) (sid : Nat) (lib : Option Exn) : QuietP s (resetAbandoned s sid lib) := by
  unfold resetAbandoned
  split
  · split <;> exact ⟨rfl, by simp⟩
  · dsimp only
    split
    · exact ⟨rfl, by simp⟩
    · split <;> exact ⟨rfl, by simp⟩

theorem unblockP_quiet (s : St) (sid : Nat) : QuietP s (unblockP s sid) := by
  unfold unblockP
  split <;> exact ⟨rfl, by simp⟩

theorem closeTail_quiet (s2 : St) : Quiet (closeTail s2) := by
  unfold closeTail
  refine quiet_append_iff.2 ⟨?_, ?_⟩ <;> split <;> first | exact quiet_nil | simp

/-- every `stream_send` but the last one (`StreamClosed`) -/
theorem streamBody_quiet (s : St) (sid : Nat) (op : AppOp) (hop : ∀ a l, op ≠ .streamClosed a l) :
    QuietP s (streamBody s sid op) := by
  cases op with
  | headers lib => cases lib <;> exact ⟨rfl, by simp [streamBody]⟩
  | body push =>
    rw [streamBody_body]
    refine quietP_andThen (unblockP_quiet s sid) fun s1 o1 hs hq => ?_
    split <;> exact ⟨hs, by simp [hq]⟩
  | endBody =>
    rw [streamBody_endBody]
    split
    · exact ⟨rfl, quiet_nil⟩
    · exact quietP_andThen (unblockP_quiet s sid) fun s1 o1 hs hq => ⟨hs, by simp [hq]⟩
  | streamClosed a l => exact absurd rfl (hop a l)

theorem streamBody_frame (s : St) (sid : Nat) (op : AppOp) :
    OnlyTo sid (streamBody s sid op).2.1 ∧ (∀ i, i ≠ sid → (i ∈ (streamBody s sid op).1.streams ↔ i ∈ s.streams)) := by
  cases op with
  | streamClosed abandon lib =>
    rw [streamBody_closed]
    split
    · exact quiet_frame _ rfl quiet_nil
    · -- whatever `_reset_abandoned_response` did, `_close_stream` is what touches the stream
      have hp : QuietP s (if (abandon && s.buffers.contains sid && s.streams.contains sid) = true
          then resetAbandoned s sid lib else (s, [], none)) := by
        split
        · exact resetAbandoned_quiet s sid lib
        · exact ⟨rfl, quiet_nil⟩
      rcases andThen_cases _ _ with ⟨e, _, h⟩ | ⟨_, h⟩ <;> rw [h]
      · exact quiet_frame _ hp.1 hp.2
      · obtain ⟨c1, c2⟩ := closeStream_frame _ sid
        exact ⟨onlyTo_append (onlyTo_append (quiet_onlyTo _ hp.2) c1) (quiet_onlyTo _ (closeTail_quiet _)),
          fun i hi => by rw [c2 i hi, hp.1]⟩
  | _ => exact (streamBody_quiet s sid _ (by simp)).elim (quiet_frame _)

theorem streamSend_inv {s s' : St} {sid : Nat} {op : AppOp} {o' : List Out} (h : streamSend s sid op = .ok (s', o')) :
    s' = (streamBody s sid op).1 ∧ o' = (streamBody s sid op).2.1 := by
  rw [streamSend_eq_protect] at h
  rcases protect_inv h with h | h
  · exact h
  · cases h; exact ⟨rfl, rfl⟩

theorem streamSend_frame (s : St) (sid : Nat) (op : AppOp) (s' : St) (o' : List Out) (h : streamSend s sid op = .ok (s', o')) :
    OnlyTo sid o' ∧ (∀ i, i ≠ sid → (i ∈ s'.streams ↔ i ∈ s.streams)) := by
  obtain ⟨rfl, rfl⟩ := streamSend_inv h
  exact streamBody_frame s sid op

/-! ### one step, seen from a stream it is not addressed to -/

/-- the stream an operation is addressed to -/
def addressee : Op → Option Nat
  | .ev (.request r _ _) => some r.sid
  | .ev (.data j) => some j
  | .ev (.ended j) => some j
  | .ev (.reset j) => some j
  | .app j _ => some j
  | _ => none

theorem onRequest_frame {kaMax : Nat} {s s1 : St} {r : Req} {ins lib : Option Exn} {o : List Out}
    (h : onEvent kaMax s (.request r ins lib) = .ok (s1, o)) :
    OnlyTo r.sid o ∧ ∀ i, i ≠ r.sid → (i ∈ s1.streams ↔ i ∈ s.streams) := by
  have hk : ∀ k : Nat, Quiet (if k > kaMax then [Out.connCall "close_connection" false] else []) := by
    intro k; split <;> first | exact quiet_nil | simp
  simp only [onEvent] at h
  split at h
  · -- shutting down: the stream is refused
    split at h
    · cases h; exact quiet_frame _ rfl (quiet_append_iff.2 ⟨by simp, hk _⟩)
    · split at h <;> cases h
      exact quiet_frame _ rfl (quiet_append_iff.2 ⟨by simp, hk _⟩)
  · obtain ⟨⟨s3, o3⟩, hc, h⟩ := Except.bind_eq_ok.mp h
    cases h
    obtain ⟨c1, c2⟩ := createStream_frame hc
    exact ⟨onlyTo_append (onlyTo_append c1 (quiet_onlyTo _ (by simp))) (quiet_onlyTo _ (hk _)), c2⟩

/-- **what a step does to a stream it is not addressed to: nothing.**  The stream stays in, or out of, `self.streams` and its
    object is handed nothing.  (`handle(Closed)` is addressed to every stream.) -/
theorem step_frame {kaMax : Nat} {s s1 : St} {op : Op} {o : List Out} (h : step kaMax s op = .ok (s1, o))
    (hc : op ≠ .closed) {i : Nat} (hi : addressee op ≠ some i) :
    (∀ w, Out.toStream i w ∉ o) ∧ (i ∈ s1.streams ↔ i ∈ s.streams) := by
  have only : ∀ {j : Nat} {s1 : St} {o : List Out}, addressee op = some j →
      (OnlyTo j o ∧ ∀ k, k ≠ j → (k ∈ s1.streams ↔ k ∈ s.streams)) →
      (∀ w, Out.toStream i w ∉ o) ∧ (i ∈ s1.streams ↔ i ∈ s.streams) := @fun j _ _ hj hq =>
    have hij : i ≠ j := fun e => hi (e ▸ hj)
    ⟨fun w hw => by obtain ⟨w', e⟩ := hq.1 _ hw rfl; cases e; exact hij rfl, hq.2 i hij⟩
  have quiet : ∀ {s1 : St} {o : List Out}, s1.streams = s.streams ∧ Quiet o →
      (∀ w, Out.toStream i w ∉ o) ∧ (i ∈ s1.streams ↔ i ∈ s.streams) :=
    fun hq => ⟨fun w hw => Bool.noConfusion (hq.2 _ hw), by rw [hq.1]⟩
  cases op with
  | ev e =>
    cases e with
    | request r ins lib => exact only rfl (onRequest_frame h)
    | data j =>
      have hij : i ≠ j := fun e => hi (e ▸ rfl)
      rw [step, onEvent_data] at h
      cases h
      exact ⟨fun w => by split <;> simp [hij], Iff.rfl⟩
    | ended j =>
      have hij : i ≠ j := fun e => hi (e ▸ rfl)
      rw [step, onEvent_ended] at h
      cases h
      exact ⟨fun w => by split <;> simp [hij], Iff.rfl⟩
    | reset j =>
      simp only [step, onEvent] at h
      split at h
      · cases h
      · next hw =>
        cases h
        obtain ⟨w1, w2⟩ := windowUpdated_frame hw
        obtain ⟨c1, c2⟩ := closeStream_frame s j
        exact only rfl ⟨onlyTo_append c1 (quiet_onlyTo _ w2), fun k hk => by rw [w1]; exact c2 k hk⟩
    | window sid => exact quiet (windowUpdated_frame h)
    | priority sid dep rep ins pe => exact quiet (priorityUpdated_frame h)
    | settings iw =>
      simp only [step, onEvent] at h
      split at h
      · exact quiet (windowUpdated_frame h)
      · cases h; exact quiet ⟨rfl, quiet_nil⟩
    | terminated => cases h; exact quiet ⟨rfl, by simp⟩
    | other => cases h; exact quiet ⟨rfl, quiet_nil⟩
  | batchEnd => cases h; exact quiet ⟨rfl, by simp⟩
  | recvRaised e =>
    simp only [step] at h
    split at h <;> cases h
    exact quiet ⟨rfl, by simp⟩
  | closed => exact absurd rfl hc
  | terminate => cases h; exact quiet ⟨rfl, quiet_nil⟩
  | app j aop => exact only rfl (streamSend_frame _ _ _ _ _ h)
  | sendTask n => exact quiet (sendTask_frame h)

/-! ### one wrapped step, seen from stream `i` -/

theorem filterMap_decorate (op : RxOp) (o : List Out) : o.filterMap (decorate op) = (o.filter isDeliv).filterMap (decorate op) := by
  induction o with
  | nil => rfl
  | cons x t ih =>
    cases hx : isDeliv x
    · rw [List.filter_cons_of_neg (by rw [hx]; exact Bool.false_ne_true), List.filterMap_cons, decorate_quiet op x hx]; exact ih
    · rw [List.filter_cons_of_pos hx, List.filterMap_cons, List.filterMap_cons, ih]

/-- `decorate` keeps the stream id of what is handed to a stream object, and only a DATA operation decorates an
    acknowledgement (with its own flow-controlled length) -/
theorem decorate_inv {op : RxOp} {x : Out} {d : Dlv} (h : decorate op x = some d) :
    (∃ j w, x = .toStream j w ∧ ((∃ ws r, d = .start j ws r) ∨ (∃ b, d = .body j b) ∨ d = .endBody j ∨ d = .closed j)) ∨
    (∃ j sid b f, op = .data sid b f ∧ d = .ack j f) := by
  cases x with
  | toStream j w =>
    simp only [decorate] at h
    (repeat' split at h) <;> cases h <;> simp
  | h2call n j r =>
    simp only [decorate] at h
    (repeat' split at h) <;> cases h <;> simp
  | _ => cases h

/-- what is delivered to stream `i` comes from an output addressed to its object -/
theorem notTo_dlv (op : RxOp) (i : Nat) (o : List Out) (h : ∀ w, Out.toStream i w ∉ o) :
    dlvFor i (o.filterMap (decorate op)) = [] := by
  simp only [dlvFor, List.filter_eq_nil_iff, List.mem_filterMap]
  rintro d ⟨x, hx, hd⟩ hp
  rcases decorate_inv hd with ⟨j, w, hxj, hdj⟩ | ⟨j, _, _, f, _, hda⟩
  · have : j = i := by rcases hdj with ⟨_, _, rfl⟩ | ⟨_, rfl⟩ | rfl | rfl <;> simpa using hp
    exact h w (this ▸ hxj ▸ hx)
  · rw [hda] at hp; cases hp

/-- credit is returned for DATA events only, and for each of them, whether or not the stream is there -/
theorem step_acks {kaMax : Nat} {s s1 : St} {op : RxOp} {o : List Out} (h : step kaMax s op.abs = .ok (s1, o)) :
    acksOf (o.filterMap (decorate op)) = flowsOf [op] := by
  by_cases hop : ∃ j d f, op = .data j d f
  · obtain ⟨j, d, f, rfl⟩ := hop
    rw [RxOp.abs, step, onEvent_data] at h
    cases h
    split <;> rfl
  · have : flowsOf [op] = [] := by cases op <;> first | rfl | exact absurd ⟨_, _, _, rfl⟩ hop
    simp only [this, acksOf, List.filterMap_filterMap, List.filterMap_eq_nil_iff]
    intro x _
    cases hd : decorate op x with
    | none => rfl
    | some d =>
      rcases decorate_inv hd with ⟨_, _, _, ⟨_, _, rfl⟩ | ⟨_, rfl⟩ | rfl | rfl⟩ | ⟨_, sid, b, f, rfl, _⟩
      · rfl
      · rfl
      · rfl
      · rfl
      · exact absurd ⟨sid, b, f, rfl⟩ hop

def isReqFor (i : Nat) : RxOp → Prop
  | .request j _ _ _ => j = i
  | _ => False

/-- the three conclusions about one step -/
def StepSpec (i : Nat) (s : St) (op : RxOp) (s1 : St) (d1 : List Dlv) : Prop :=
  (i ∈ s1.streams ↔ (i ∈ s.streams ∨ isReqFor i op)) ∧
  dlvFor i d1 = expectR i (decide (i ∈ s.streams)) ([op].filter (rxFor i)) ∧ acksOf d1 = flowsOf [op]

theorem not_addressee {i : Nat} {op : RxOp} (h : addressee op.abs ≠ some i) : rxFor i op = false ∧ ¬ isReqFor i op := by
  cases op with
  | request j hs ins lib => have : j ≠ i := fun e => h (e ▸ rfl); simp [rxFor, isReqFor, this]
  | data j d f => have : j ≠ i := fun e => h (e ▸ rfl); simp [rxFor, isReqFor, this]
  | low o =>
    refine ⟨?_, id⟩
    cases o with
    | ev e => cases e <;> first | rfl | simpa [rxFor, addressee, RxOp.abs] using h
    | _ => rfl

theorem rxStep_spec (i kaMax : Nat) (s : St) (op : RxOp) (s1 : St) (d1 : List Dlv)
    (h : rxStep kaMax s op = .ok (s1, d1)) (ha : opAdm i s op = true) : StepSpec i s op s1 d1 := by
  obtain ⟨o, hstep, rfl⟩ := rxStep_inv h
  simp only [opAdm, Bool.and_eq_true] at ha
  obtain ⟨⟨hok, hkeep⟩, hacc⟩ := ha
  by_cases ht : addressee op.abs = some i
  · -- addressed to `i`: its request, its DATA and END_STREAM, a `stream_send` of its application (`keeps` excludes the rest)
    suffices h12 : (i ∈ s1.streams ↔ (i ∈ s.streams ∨ isReqFor i op)) ∧
        dlvFor i (o.filterMap (decorate op)) = expectR i (decide (i ∈ s.streams)) ([op].filter (rxFor i)) from
      ⟨h12.1, h12.2, step_acks hstep⟩
    cases op with
    | request j hs ins lib =>
      -- its own request, one `_create_stream` accepts (`opAdm`): the stream is created and handed the `Request`
      obtain rfl : j = i := by simpa [RxOp.abs, addressee, reqOf] using ht
      have hac : accepts s (reqOf j hs) ins = true := by simpa using hacc
      have hterm : s.terminated = false := by
        simp only [accepts, Bool.and_eq_true, Bool.not_eq_true'] at hac; exact hac.1.1.1.1.1
      obtain ⟨s2, o2, hcs, hmem, hfil⟩ := createStream_accepted s (reqOf j hs) ins lib hac
      simp only [RxOp.abs, step, onEvent, bind, Except.bind, pure, Except.pure, hterm, Bool.false_eq_true, if_false, hcs,
        Except.ok.injEq, Prod.mk.injEq] at hstep
      obtain ⟨rfl, rfl⟩ := hstep
      have hf : ((o2 ++ [Out.upUpdated (if s2.streams.isEmpty = true then some true else none)]) ++
          (if s2.kar > kaMax then [Out.connCall "close_connection" false] else [])).filter isDeliv = o2.filter isDeliv := by
        split <;> simp [List.filter_append]
      refine ⟨by simpa [isReqFor, reqOf] using hmem, ?_⟩
      rw [filterMap_decorate, hf, hfil]
      simp [decorate, dlvFor, rxFor, expectR, reqOf]
    | data j d f =>
      -- its DATA: a `Body` if the stream is there
      obtain rfl : j = i := by simpa [RxOp.abs, addressee] using ht
      rw [RxOp.abs, step, onEvent_data] at hstep
      cases hstep
      by_cases hm : j ∈ s.streams <;> simp [decorate, dlvFor, rxFor, expectR, isReqFor, hm]
    | low op =>
      cases op with
      | ev e =>
        cases e with
        | request r ins lib => cases hok   -- (`RxOp.ok`: the two events with contents are not `low`)
        | data j => cases hok
        | ended j =>
          -- its END_STREAM: `EndBody` if the stream is there
          obtain rfl : j = i := by simpa [RxOp.abs, addressee] using ht
          rw [RxOp.abs, step, onEvent_ended] at hstep
          cases hstep
          by_cases hm : j ∈ s.streams <;> simp [decorate, dlvFor, rxFor, expectR, isReqFor, hm]
        | reset j =>
          -- excluded by `keeps`
          obtain rfl : j = i := by simpa [RxOp.abs, addressee] using ht
          simp [keeps] at hkeep
        | _ => cases ht
      | app j aop =>
        -- a `stream_send` of its application other than `StreamClosed` (`keeps`): hands nothing over
        obtain rfl : j = i := by simpa [RxOp.abs, addressee] using ht
        have hop : ∀ a l, aop ≠ .streamClosed a l := by rintro a l rfl; simp [keeps] at hkeep
        obtain ⟨rfl, rfl⟩ := streamSend_inv hstep
        obtain ⟨hs, hq⟩ := streamBody_quiet s j aop hop
        exact ⟨by simp [hs, isReqFor], by rw [filterMap_quiet _ _ hq]; rfl⟩
      | _ => cases ht
  · -- addressed to another stream, or to none: `step_frame` (`keeps` excludes `handle(Closed)`)
    have hc : op.abs ≠ .closed := by
      rintro hc
      cases op with
      | low o => cases (show o = .closed from hc); cases hkeep
      | _ => cases hc
    have hf := step_frame hstep hc ht
    exact ⟨by rw [hf.2]; simp [(not_addressee ht).2], by rw [notTo_dlv op i o hf.1]; simp [(not_addressee ht).1, expectR],
      step_acks hstep⟩

/-! ### runs -/

theorem expectR_split (i : Nat) (live live' : Bool) (op : RxOp) (rest : List RxOp)
    (hl : live' = true ↔ live = true ∨ isReqFor i op) :
    expectR i live ((op :: rest).filter (rxFor i)) =
      expectR i live ([op].filter (rxFor i)) ++ expectR i live' (rest.filter (rxFor i)) := by
  cases hr : rxFor i op <;> cases op <;> cases live <;> cases live' <;> simp_all [expectR, isReqFor, rxFor]

theorem dlvFor_append (i : Nat) (a b : List Dlv) : dlvFor i (a ++ b) = dlvFor i a ++ dlvFor i b := by simp [dlvFor]
theorem acksOf_append (a b : List Dlv) : acksOf (a ++ b) = acksOf a ++ acksOf b := by simp [acksOf]

/-- **what stream `i`'s object is handed over a whole run is what its receive events must deliver**, whatever else happens
    on the connection in between; and every DATA event of the run is acknowledged -/
theorem deliveries (i kaMax : Nat) : ∀ (ops : List RxOp) (s s' : St) (dl : List Dlv),
    rxRun kaMax s ops = .ok (s', dl) → Adm i kaMax s ops →
    dlvFor i dl = expectR i (decide (i ∈ s.streams)) (ops.filter (rxFor i)) ∧ acksOf dl = flowsOf ops := by
  intro ops
  induction ops with
  | nil => intro s s' dl h _; cases h; exact ⟨rfl, rfl⟩
  | cons op rest ih =>
    intro s s' dl h hadm
    obtain ⟨s1, d1, d2, h1, h2, rfl⟩ := rxRun_cons_ok h
    obtain ⟨p1, p2, p3⟩ := rxStep_spec i kaMax s op s1 d1 h1 hadm.1
    obtain ⟨q1, q2⟩ := ih s1 _ d2 h2 (hadm.2 s1 d1 h1)
    refine ⟨?_, ?_⟩
    · rw [dlvFor_append, expectR_split i _ (decide (i ∈ s1.streams)) op rest (by simpa using p1), p2, q1]
    · rw [acksOf_append, p3, q2]; cases op <;> rfl

theorem expectR_live (i : Nat) (ds : List (Bytes × Nat)) (tail : List RxOp) :
    expectR i true (ds.map (fun p => RxOp.data i p.1 p.2) ++ tail) = ds.map (fun p => Dlv.body i p.1) ++ expectR i true tail := by
  induction ds with
  | nil => rfl
  | cons p t ih => simp [expectR, ih]


/-! ### every DATA event is acknowledged, in every run (reset streams, closed connection, finished applications included) -/

/-- **every DATA frame is acknowledged exactly once, with its flow-controlled length, in order** — in every run, whether or not the
    stream the frame belongs to still exists.  (The hypothesis `RxOp.ok` — the two events with contents are not passed as `low` —
    is not needed for this: a DATA event passed as `low` is not acknowledged, and `flowsOf` does not count it.) -/
theorem run_acks (kaMax : Nat) : ∀ (ops : List RxOp) (s s' : St) (dl : List Dlv),
    rxRun kaMax s ops = .ok (s', dl) → (∀ op ∈ ops, op.ok = true) → acksOf dl = flowsOf ops := by
  intro ops
  induction ops with
  | nil => intro s s' dl h _; cases h; rfl
  | cons op rest ih =>
    intro s s' dl h hok
    obtain ⟨s1, d1, d2, h1, h2, rfl⟩ := rxRun_cons_ok h
    obtain ⟨o, ho, rfl⟩ := rxStep_inv h1
    rw [acksOf_append, step_acks ho, ih s1 _ d2 h2 (fun o ho => hok o (List.mem_cons_of_mem _ ho))]
    cases op <;> rfl

end HC.Proto.H2Deliver
