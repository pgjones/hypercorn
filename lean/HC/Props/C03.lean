import HC.Conn.Inv
import HC.Extracted.WsSeq
/-!
# C03 — exactly-once disconnect and access record; sends after close are no-ops

Theorems about `HC.Conn.Server` for **every** configuration (protocol, worker, queue capacity, timeout) and **every**
operation sequence (all schedules of reader, applications, timer, closer tasks; all close sources).
`handed` is the ordered list of messages given to `app_put` for an instance, `recvd` what `receive()` returned.
-/
namespace HC.Props.C03
open HC.Conn HC.Extracted.ConnGuards

/-- the shape of the source the model was written against, as extracted: a change there regenerates one of these to `false` (or
    breaks the extractor) and this theorem fails.  Most of them are tests inside `HC.Conn.Server`, which the proofs evaluate;
    `httpStateClosedBeforeLog…` and `h2ClosedReleasesBuffers` occur in no definition and record the order of statements only -/
theorem guards_as_extracted :
    httpHandleClosedGuard = true ∧ wsHandleClosedGuard = true ∧ httpClosedBeforePut = true ∧ wsClosedBeforePut = true ∧
    httpPutIsDisconnect = true ∧ wsPutIsDisconnect = true ∧ wsSendClosedGuard = true ∧ httpExitClosedGuard = true ∧
    httpStreamClosedLogsUnlessEnded = true ∧ httpLogGuardedClosed = true ∧ httpLogGuardedError = true ∧
    httpStateClosedBeforeLogClosed = true ∧ httpStateClosedBeforeLogError = true ∧ h11CloseStreamForgets = true ∧
    h2CloseStreamPopsFirst = true ∧ httpSendsBeforeStateClosedClosed = true ∧ httpSendsBeforeStateClosedError = true ∧
    h2ClosedTellsEveryStream = true ∧ h2ClosedReleasesBuffers = true := by decide +kernel

/-- **every report of `Closed` reaches every registered stream**, whether or not the connection was already marked closed:
    `protocol.handle(Closed())` is, on both protocols and from any state, the program that closes each stream registered
    at that moment (then releases waiting senders and a parked reader).  `Closed` is reported by several parties (a failed
    write, the reader's end, the idle timer) and HTTP/2 registers new streams on a closed connection, so the report that
    comes last must not be skipped -/
theorem closed_tells_every_stream (f : Nat) (s : St) (w : Who) (rest : List Instr) :
    exec (f + 1) s w (.handleClosed :: rest) =
      exec f { s with pclosed := true } w (s.live.map Instr.closeStream ++ [.releaseDrains none] ++ [.canReadSet] ++ rest) := by
  simp [exec, h2ClosedTellsEveryStream, h11ClosedSetsFlag, h11ClosedClosesStream, h11ClosedReleasesReader]

/-- … and telling a registered stream closes it: afterwards the stream is closed, and if it was open with an application
    its disconnect has been handed over in that very action (at most its put is still waiting for room: F08) -/
theorem close_stream_tells (s : St) (w : Who) (i : Nat) (pop : Bool) (hl : i ∈ s.live) :
    ((closeStreamP s w i pop).1.inst i).closed = true ∧
    ((s.inst i).closed = false → (s.inst i).hasApp = true →
      ((closeStreamP s w i pop).1.inst i).discPuts = (s.inst i).discPuts + 1) := by
  obtain ⟨m1, _, _, _, _, _, m7, _⟩ := markStreamClosed_fields (s.inst i)
  let P (r : St × Bool) : Prop := (r.1.inst i).closed = true ∧
    ((s.inst i).closed = false → (s.inst i).hasApp = true → (r.1.inst i).discPuts = (s.inst i).discPuts + 1)
  show P (closeStreamP s w i pop)
  unfold closeStreamP
  rw [if_neg (by simpa using hl)]
  refine ite_elim (P := P) (fun hg => ?_) fun _ => ite_elim (P := P) (fun _ => ?_) fun ha => ?_
  · -- told before
    have hc := (Bool.and_eq_true _ _ ▸ hg).2
    exact ⟨hc, fun h0 => absurd hc (by simp [h0])⟩
  · -- marked closed, then the disconnect is handed over
    simp only [P]
    rw [offer_setInst]
    simp only [St.emit, St.setInst, upd_same]
    exact ⟨(offer_same ..).1.trans m1, fun _ _ => (offer_counts ..).1.trans (by rw [m7]; rfl)⟩
  · simp only [P, St.emit, St.setInst, upd_same]
    exact ⟨m1, fun _ h1 => absurd h1 ha⟩

/-- at every moment of every run, at most one disconnect has been handed to an instance and nothing was handed over after it -/
theorem disconnect_at_most_once (cfg : Cfg) (ops : List Op) (s : St) (hr : run (init cfg) ops = some s) (i : Nat) :
    (s.inst i).discPuts ≤ 1 ∧ (s.inst i).afterDisc = 0 :=
  ⟨((reachable_inv cfg ops s hr).inst i).d1, ((reachable_inv cfg ops s hr).inst i).d2⟩

/-- the same on the message lists themselves: the disconnect occurs at most once in what was handed over, only as the last
    element; what the application received is a prefix of it (FIFO, nothing invented) -/
theorem nothing_after_disconnect (cfg : Cfg) (ops : List Op) (s : St) (hr : run (init cfg) ops = some s) (i : Nat) :
    (∀ pre post, (s.inst i).handed = pre ++ [QMsg.disconnect] ++ post → post = [] ∧ QMsg.disconnect ∉ pre) ∧
    (∃ rest, (s.inst i).handed = (s.inst i).recvd ++ rest) := by
  have hI := (reachable_inv cfg ops s hr).inst i
  refine ⟨?_, ⟨(s.inst i).inflight.toList ++ (s.inst i).q ++ (s.inst i).waiting.map Prod.snd, by rw [hI.fifo]; simp [List.append_assoc]⟩⟩
  intro pre post he
  have hmem : QMsg.disconnect ∈ (s.inst i).handed := by rw [he]; simp
  have h1 : (s.inst i).discPuts = 1 := by
    have := hI.d1
    by_cases hz : (s.inst i).discPuts = 0
    · exact absurd hmem (hI.d5 hz)
    · omega
  obtain ⟨pre', e', hn'⟩ := hI.d6 h1
  obtain ⟨hp, rfl⟩ := eq_of_snoc_eq_append_cons hn' (pre := pre) (post := post) (by rw [← e', he, List.append_assoc]; rfl)
  exact ⟨hp, hn'⟩

/-- … hence in what the application *received* nothing follows the disconnect -/
theorem received_disconnect_is_last (cfg : Cfg) (ops : List Op) (s : St) (hr : run (init cfg) ops = some s) (i : Nat)
    (pre post : List QMsg) (he : (s.inst i).recvd = pre ++ [QMsg.disconnect] ++ post) : post = [] := by
  obtain ⟨h1, rest, h2⟩ := nothing_after_disconnect cfg ops s hr i
  have h3 : post ++ rest = [] := (h1 pre (post ++ rest) (by rw [h2, he]; simp [List.append_assoc])).1
  exact (List.append_eq_nil_iff.1 h3).1

/-- **the disconnect is put in the same atomic action that closes the stream**: a closed stream with an application has
    been handed exactly one disconnect (whatever the queue's fill state), and only a closed stream has -/
theorem disconnect_with_close (cfg : Cfg) (ops : List Op) (s : St) (hr : run (init cfg) ops = some s) (i : Nat) :
    ((s.inst i).closed = true → (s.inst i).hasApp = true → (s.inst i).discPuts = 1) ∧
    ((s.inst i).discPuts = 1 → (s.inst i).closed = true) :=
  ⟨((reachable_inv cfg ops s hr).inst i).d4, ((reachable_inv cfg ops s hr).inst i).d3⟩

/-- when the handler finishes, no stream is registered, so every stream ever created is closed -/
theorem all_closed_at_exit (cfg : Cfg) (ops : List Op) (s s' : St) (hr : run (init cfg) ops = some s)
    (hd : step s .handlerExit = some s') (i : Nat) (hi : i < s.n) : (s.inst i).closed = true := by
  have hI := reachable_inv cfg ops s hr
  simp only [step] at hd
  split at hd
  · rename_i hrdy
    simp only [St.handlerReady, Bool.and_eq_true, List.isEmpty_iff] at hrdy
    have hl : s.live = [] := hrdy.1.1.1.1.1.1.2
    rcases hI.lv i hi with c | m
    · exact c
    · rw [hl] at m; cases m
  · simp at hd

/-- at handler completion every application instance has been handed exactly one disconnect, and it is the last message handed
    over -/
theorem disconnect_exactly_once (cfg : Cfg) (ops : List Op) (s s' : St) (hr : run (init cfg) ops = some s)
    (hd : step s .handlerExit = some s') (i : Nat) (hi : i < s.n) (ha : (s.inst i).hasApp = true) :
    (s'.inst i).discPuts = 1 ∧ ∃ pre, (s'.inst i).handed = pre ++ [QMsg.disconnect] ∧ QMsg.disconnect ∉ pre := by
  have hI := reachable_inv cfg ops s hr
  have hc := all_closed_at_exit cfg ops s s' hr hd i hi
  have h1 := (hI.inst i).d4 hc ha
  have hs' : s'.inst = s.inst := by
    simp only [step] at hd
    split at hd
    · simp at hd; subst hd
      simp [St.emit]
    · simp at hd
  rw [hs']
  exact ⟨h1, (hI.inst i).d6 h1⟩

/-- HTTP: never more than one access record per request; exactly one as soon as the stream is closed or its response has ended -/
theorem access_at_most_once_http (cfg : Cfg) (ops : List Op) (s : St) (hr : run (init cfg) ops = some s) (i : Nat)
    (hk : (s.inst i).kind = .http) :
    (s.inst i).access ≤ 1 ∧ (((s.inst i).closed = true ∨ (s.inst i).hst = .closed) → (s.inst i).access = 1) :=
  ⟨((reachable_inv cfg ops s hr).inst i).a1 hk, ((reachable_inv cfg ops s hr).inst i).a2 hk⟩

/-- … hence at handler completion every HTTP request that produced a scope has exactly one record -/
theorem access_once_http (cfg : Cfg) (ops : List Op) (s s' : St) (hr : run (init cfg) ops = some s)
    (hd : step s .handlerExit = some s') (i : Nat) (hi : i < s.n) (hk : (s.inst i).kind = .http) : (s.inst i).access = 1 :=
  ((reachable_inv cfg ops s hr).inst i).a2 hk (Or.inl (all_closed_at_exit cfg ops s s' hr hd i hi))

/-- WebSocket: on a closed stream every message - valid in the current state or not - is
    accepted: the `send()` returns normally and nothing else happens (no write, no state change, no record) -/
theorem ws_send_after_close_ok (s : St) (i : Nat) (m : AMsg) (hc : (s.inst i).closed = true) :
    wsSendProg s i m = [.sendRet i true] ∧ s.run (.app i) (wsSendProg s i m) = s.emit [.sendRet i true] := by
  have h1 : wsSendProg s i m = [.sendRet i true] := by simp [wsSendProg, wsSendClosedGuard, hc]
  exact ⟨h1, by rw [h1]; rfl⟩

/-- HTTP/2: a message valid in the instance's ASGI state returns normally, closed or not -/
theorem http2_valid_send_ok (s : St) (i : Nat) (hp : s.cfg.proto = .h2) :
    (∀ c, (s.inst i).hst = .request → (httpSendProg s i (.start c)).getLast? = some (.sendRet i true)) ∧
    (∀ more ne, (s.inst i).hst = .response → (httpSendProg s i (.body more ne)).getLast? = some (.sendRet i true)) := by
  constructor
  · intro c hh; simp [httpSendProg, hh, hp]
  · intro more ne hh; simp [httpSendProg, hh, hp]

/-- HTTP/1: a state-valid message returns normally unless h11 itself refuses the event while
    the peer's side is not in error; that h11 never does so after closure is library behaviour, sampled on every run -/
theorem http1_valid_send_ok (s : St) (i : Nat) (hp : s.cfg.proto = .h1) :
    (∀ c, (s.inst i).hst = .request → libTry s .sendResp ≠ .raises → (httpSendProg s i (.start c)).getLast? = some (.sendRet i true)) ∧
    (∀ more ne, (s.inst i).hst = .response → libTry s .sendBody ≠ .raises → (httpSendProg s i (.body more ne)).getLast? = some (.sendRet i true)) := by
  constructor
  · intro c hh hl
    cases hx : libTry s .sendResp <;> simp_all [httpSendProg]
  · intro more ne hh hl
    cases hx : libTry s .sendBody <;> simp_all [httpSendProg] <;> (cases more <;> cases ne <;> simp)

/-- the application's exit on a closed stream does nothing but end the task (`if not self.closed` / `if self.closed: return`) -/
theorem exit_after_close_noop (s : St) (i : Nat) (hc : (s.inst i).closed = true) : exitProg s i = [.markExited i] := by
  cases hk : (s.inst i).kind <;> simp [exitProg, hk, hc, httpExitClosedGuard, wsSendClosedGuard]

/-! ### the connection is lost in the middle of one of the stream's own closing sequences

A WebSocket stream answers and closes on its own in several places (404 / 400 to the handshake, 400 for data before the
acceptance, 500 or close frame 1011 for an application that has finished, the echo of the client's close frame); each is a
sequence of awaited steps, and during any of them the connection may be lost - the failed write of that very response, the
reader's end, the idle timer - which makes the protocol call `handle(StreamClosed)` *inside* the await, after which the
sequence runs on.  `HC.Extracted.WsSeq.wsClosingPaths` is every such path of the current source (`tools/extract_wsseq.py`),
`HC.Stream.WsSeq.run` what a path does with the connection lost during its k-th await. -/
section WsSequences
open HC.Stream.WsSeq HC.Extracted.WsSeq

/-- **exactly one disconnect, whichever await of a closing sequence the connection is lost in** (or in none): every path of
    `WSStream.handle` / `WSStream.app_send` that closes the stream - started on an open stream with or without an application
    (without, when it is the path of the `Request` itself) - ends with the stream closed, exactly one disconnect handed to the
    application if there is one (none otherwise), and nothing handed over after it.  The only thing between the stream's own
    disconnect and the one `handle(StreamClosed)` puts is the `closed` flag: a sequence that awaits a send with an application
    waiting and the flag still down fails here -/
theorem ws_sequences_disconnect_once :
    ∀ p ∈ wsClosingPaths, ∀ a ∈ p.apps appPutStartsNone, ∀ loss ∈ p.losses,
      (run loss { hasApp := a } p.steps).ok = true := by
  have h : (wsClosingPaths.all (Path.holds appPutStartsNone)) = true := by decide +kernel
  intro p hp a ha loss hl
  have h1 := List.all_eq_true.mp h p hp
  unfold Path.holds at h1
  exact List.all_eq_true.mp (List.all_eq_true.mp h1 a ha) loss hl

/-- … and the paths are there: a sequence that sends and then puts the disconnect itself (the 400 for data before the
    acceptance), one that answers the `Request` (404 / 400), one that sends and then has the protocol close the stream (500,
    close frame, echo of the client's close) -/
theorem ws_sequences_cover :
    (wsClosingPaths.any fun p => p.steps.contains .send && p.steps.contains (.put true)) = true ∧
    (wsClosingPaths.any fun p => p.first && p.steps.contains .send) = true ∧
    (wsClosingPaths.any fun p => p.steps.contains .send && p.steps.contains .tell) = true := by decide +kernel

/-- what the obligation excludes: the 400 sent with the flag still down - the connection lost during the first send, the
    application is handed a second disconnect after the first -/
example : (run (some 0) { hasApp := true } [.assumeClosed false, .send, .send, .wait, .setClosed true, .assumeApp true, .put true, .spawnTell]).discs = 2 ∧
    Path.holds true { root := "handle", first := false, steps := [.assumeClosed false, .send, .send, .wait, .setClosed true, .assumeApp true, .put true, .spawnTell] } = false ∧
    Path.holds true { root := "handle", first := false, steps := [.assumeClosed false, .setClosed true, .send, .send, .wait, .setClosed true, .assumeApp true, .put true, .spawnTell] } = true := by decide +kernel

end WsSequences

def getOpen : List Op :=
  [.read, .head {}, .eom, .needData, .appRecv 0, .appSend 0 (.start false), .appSend 0 (.body false true), .appExit 0,
   .readEof, .connClosed, .handlerExit]

/-- a keep-alive GET, answered, client EOF: handler exits; one disconnect, one access record -/
example : (run (init {}) getOpen).map (fun s => ((s.inst 0).discPuts, (s.inst 0).access, (s.inst 0).handed, s.doneAt.isSome)) =
    some (1, 1, [.request false, .disconnect], true) := by decide +kernel

/-- client half-close during the request, application answers afterwards: still exactly one record (F07 fixed) -/
example : (run (init {}) [.read, .head {}, .body, .needData, .readEof, .protoError, .appRecv 0, .appRecv 0,
      .appSend 0 (.start false), .appSend 0 (.body false true), .appExit 0, .handlerExit]).map
    (fun s => ((s.inst 0).discPuts, (s.inst 0).access, s.doneAt.isSome)) = some (1, 1, true) := by decide +kernel

/-- the peer resets at the k-th write of a streamed response (head, chunk, terminator), on either worker: still exactly
    one access record and one disconnect - `self.state = CLOSED` comes after the sends, so the close that happens *during*
    the send of the response end still finds the request unlogged -/
def resetAtWrite (k : Nat) : List Op :=
  [.read, .head {}, .eom, .needData, .failAfter k, .appSend 0 (.start false), .appSend 0 (.body true true), .appSend 0 (.body false true)]
example : ([1, 2, 3].map fun k => (run (init {}) (resetAtWrite k)).map (fun s => ((s.inst 0).access, (s.inst 0).discPuts, (s.inst 0).closed))) =
    [some (1, 1, true), some (1, 1, true), some (1, 1, true)] := by decide +kernel
/-- HTTP/2, `Closed` reported twice with a stream opened in between: a write fails while the reader still runs (stream 0 is
    told), a request the client had sent before it left is read and given to a new application (stream 1, registered on a
    closed connection), the reader reaches EOF and reports `Closed` again: stream 1 is told then; each got exactly one
    disconnect and nothing stays registered -/
def closedTwice : List Op :=
  [.read, .head {}, .h2eom 0, .needData, .appRecv 0, .failWrites, .appSend 0 (.start false),
   .read, .head {}, .h2eom 1, .needData, .appRecv 1, .readEof, .needData]
example : (run (init { proto := .h2 }) closedTwice).map (fun s => ((s.inst 0).discPuts, (s.inst 1).discPuts, (s.inst 1).handed, s.live, s.pclosed && s.rpc == .finished)) =
    some (1, 1, [.request false, .disconnect], [], true) := by decide +kernel

/-- F08 (known): application gone without reading, queue full: the closer's `put(disconnect)` blocks for ever - the
    handler can never exit, although the disconnect has been handed over exactly once -/
def f08 : List Op := [.read, .head {}, .body, .body, .needData, .appExit 0, .readEof, .connClosed]
example : (run (init { cap := 2 }) f08).map (fun s => ((s.inst 0).discPuts, (s.cont (.app 0)).isSome, s.handlerReady,
      [Op.handlerExit, .timerFire, .readerSeesClose, .appRecv 0].map (fun o => (step s o).isSome))) =
    some (1, true, false, [false, false, false, false]) := by decide +kernel

/-- F51 (known): a WebSocket whose client leaves during the handshake is closed without an access record -/
example : (run (init {}) [.read, .head { kind := .ws }, .needData, .readEof, .needData, .appRecv 0, .appRecv 0, .appExit 0, .handlerExit]).map
    (fun s => ((s.inst 0).discPuts, (s.inst 0).access, s.doneAt.isSome)) = some (1, 0, true) := by decide +kernel

end HC.Props.C03
