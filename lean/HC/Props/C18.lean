import HC.Lib.H11Buf
import HC.Proto.H2Lim
import HC.Worker.Recycle
import HC.Proto.H11Dead
import HC.Props.C04
import HC.Props.C15
/-!
# C18 — Configured limits and worker recycling are enforced against any client

Models: `HC/Lib/H11Buf.lean` (h11's incomplete-event rule), `HC/Proto/H11.lean` + `H11M` (HTTP/1 glue, shared with C06;
`HC/Proto/H11Dead.lean` for what a connection that announced close can still do, `C04.h1_malformed` for the error response),
`HC/Proto/H2Lim.lean` (HTTP/2 settings, request counter, what h2 refuses), `HC/Worker/Recycle.lean` + `HC/Worker/Run.lean`
(request budget, `mark_request`, the exit path; `C15.bounded` for how long the exit takes).  The file also defines the notions
its statements need: `Current`, `Conn`/`taken`, the invariant `Inv` of the HTTP/2 model, `Singleton`, `ServedAtMost`,
`CountedOnce`, `ServedAreAnswerable`, `ServedAtMostH2c`, `errHeaders`.
Every comparator, counter increment, start value, settings-table entry and `randint` bound is taken from
`HC.Extracted` (regenerated from the source and from the installed h11 / hpack / h2 on every run); the proofs unfold
them, so a changed comparator re-opens the proof.
-/
namespace HC.Props.C18
open HC HC.Extracted HC.Extracted.Guards

/-! ## `h11_max_incomplete_size`: the library rule, for every limit, head length and segmentation -/
section incomplete
open HC.Lib.H11Buf

/-- `next_event()` on an incomplete head: `> L` buffered bytes raise with the 431 hint, `≤ L` keep waiting; a complete
    head is delivered whatever its length -/
theorem nextEvent_spec (L H b : Nat) :
    nextEvent L H b = (if H ≤ b then Res.head else if L < b then Res.tooLarge 431 else Res.needData) := by
  simp [nextEvent, Limits.h11LibIncompleteCmp, Limits.h11LibIncompleteHint, Cmp.eval]

/-- the hint is a 4xx status -/
theorem hint_is_4xx : 400 ≤ Limits.h11LibIncompleteHint ∧ Limits.h11LibIncompleteHint < 500 := by decide

/-- reads that leave the head incomplete and within the limit are passed over: `next_event()` answers `NEED_DATA` -/
private theorem feed_append (L H : Nat) (pre rest : List Nat) : ∀ (b k : Nat), b + pre.sum < H → b + pre.sum ≤ L →
    feed L H b k (pre ++ rest) = feed L H (b + pre.sum) (k + pre.length) rest := by
  induction pre with
  | nil => intro b k _ _; rfl
  | cons p pre ih =>
    intro b k h1 h2
    simp only [List.sum_cons] at h1 h2
    have hne : nextEvent L H (b + p) = .needData := by
      rw [nextEvent_spec, if_neg (by omega), if_neg (by omega)]
    simp only [List.cons_append, feed, hne]
    rw [ih (b + p) (k + 1) (by omega) (by omega)]
    simp only [List.sum_cons, List.length_cons]
    congr 1 <;> omega

/-- **keeps waiting**: as long as the buffered part of the head is at most `L` bytes (and incomplete) no read raises -/
theorem feed_waits (L H : Nat) (rs : List Nat) : ∀ (b k : Nat), b + rs.sum < H → b + rs.sum ≤ L →
    feed L H b k rs = .waiting (b + rs.sum) := by
  intro b k h1 h2
  have := feed_append L H rs [] b k h1 h2
  rwa [List.append_nil] at this

/-- **rejected**: the first read that leaves more than `L` bytes of a still incomplete head in the buffer raises
    (hint 431), whatever came before and whatever would follow — inside a read or exactly at a read boundary -/
theorem feed_rejects (L H r : Nat) (pre post : List Nat) : ∀ (b k : Nat),
    b + pre.sum ≤ L → L < b + pre.sum + r → b + pre.sum + r < H →
    feed L H b k (pre ++ r :: post) = .rejected (k + pre.length) (b + pre.sum + r) := by
  intro b k h1 h2 h3
  have : nextEvent L H (b + pre.sum + r) = .tooLarge 431 := by
    rw [nextEvent_spec, if_neg (by omega), if_pos (by omega)]
  rw [feed_append L H pre _ b k (by omega) h1]
  simp only [feed, this]

/-- **accepted**: a head whose last missing bytes arrive in a read is delivered when no earlier read left more than
    `L` incomplete bytes — in particular a head of any length that arrives complete in one read (`pre = []`) -/
theorem feed_accepts (L H r : Nat) (pre post : List Nat) : ∀ (b k : Nat),
    b + pre.sum ≤ L → b + pre.sum < H → H ≤ b + pre.sum + r →
    feed L H b k (pre ++ r :: post) = .accepted (k + pre.length) := by
  intro b k h1 h2 h3
  have : nextEvent L H (b + pre.sum + r) = .head := by rw [nextEvent_spec, if_pos (by omega)]
  rw [feed_append L H pre _ b k h2 h1]
  simp only [feed, this]

-- non-vacuity: limit 100, head of 200 bytes: 100 then 100 is accepted, 101 then 99 is rejected, 200 at once is accepted
example : feed 100 200 0 0 [100, 100] = .accepted 1 ∧ feed 100 200 0 0 [101, 99] = .rejected 0 101 ∧
    feed 100 200 0 0 [200] = .accepted 0 ∧ feed 0 60 0 0 [1, 59] = .rejected 0 1 ∧ feed 100 200 0 0 [60, 40] = .waiting 100 := by decide

end incomplete

/-! ## worker recycling -/
section recycle
open HC.Worker HC.Worker.Recycle

private theorem markN_gt (sh : Shape) (hc : sh.cmp = .gt) (hi : sh.incr = 1) (m : Nat) : ∀ (n : Nat) (c : Ctx), c.max = some m →
    ((Ctx.markN sh n c).terminate = true ↔ (c.terminate = true ∨ (1 ≤ n ∧ m < c.requests + n))) ∧
    (Ctx.markN sh n c).requests = c.requests + n ∧ (Ctx.markN sh n c).max = some m := by
  intro n
  induction n with
  | zero => intro c hm; simp [Ctx.markN, hm]
  | succ n ih =>
    intro c hm
    have hmark : (c.mark sh).max = some m ∧ (c.mark sh).requests = c.requests + 1 ∧
        ((c.mark sh).terminate = true ↔ (c.terminate = true ∨ m < c.requests + 1)) := by
      simp [Ctx.mark, hm, hc, hi, Cmp.eval]
    obtain ⟨h1, h2, h3⟩ := hmark
    obtain ⟨i1, i2, i3⟩ := ih (c.mark sh) h1
    simp only [Ctx.markN]
    refine ⟨?_, by rw [i2, h2]; omega, i3⟩
    rw [i1, h3, h2]
    cases c.terminate
    · simp only [Bool.false_eq_true, false_or]; omega
    · simp

/-- the two worker classes as extracted from the current source -/
def Current (sh : Shape) : Prop := sh = Shape.asyncio ∨ sh = Shape.trio

private theorem current_facts (sh : Shape) (h : Current sh) : sh.cmp = .gt ∧ sh.incr = 1 ∧ sh.init = 0 ∧ sh.op = .add ∧ sh.lo = 0 := by
  rcases h with rfl | rfl <;> decide

/-- for every base `max_requests`, every jitter and every value `j` that `randint(0, jitter)` can
    return, `terminate` is set after `n` requests **iff** `n > base + j` — both worker classes, extracted comparator,
    increment, start value, operator and `randint` bounds -/
theorem recycle_iff (sh : Shape) (hs : Current sh) (base jitter j : Nat) (_hj : drawn sh jitter j) (n : Nat) :
    (Ctx.markN sh n (Ctx.new sh (budget sh (some base) j))).terminate = true ↔ base + j < n := by
  obtain ⟨hc, hi, h0, hop, _⟩ := current_facts sh hs
  have hb : (Ctx.new sh (budget sh (some base) j)).max = some (base + j) := by
    simp [Ctx.new, budget, hop, JOp.apply]
  rw [(markN_gt sh hc hi (base + j) n _ hb).1]
  simp only [Ctx.new, h0, Nat.zero_add, Bool.false_eq_true, false_or]
  omega

/-- the request at which a worker starts its exit lies in the configured window: it is request number `base + j + 1`
    with `0 ≤ j ≤ jitter`: not before `base + 1`, not after `base + jitter + 1` -/
theorem recycle_window (sh : Shape) (hs : Current sh) (base jitter j : Nat) (hj : drawn sh jitter j) :
    (Ctx.markN sh (base + j) (Ctx.new sh (budget sh (some base) j))).terminate = false ∧
    (Ctx.markN sh (base + j + 1) (Ctx.new sh (budget sh (some base) j))).terminate = true ∧
    base + 1 ≤ base + j + 1 ∧ base + j + 1 ≤ base + jitter + 1 := by
  refine ⟨?_, (recycle_iff sh hs base jitter j hj _).2 (by omega), by omega, by have := hj.2; omega⟩
  have := recycle_iff sh hs base jitter j hj (base + j)
  cases h : (Ctx.markN sh (base + j) (Ctx.new sh (budget sh (some base) j))).terminate
  · rfl
  · have := this.1 h; omega

/-- `max_requests = None` (the default) switches recycling off: `terminate` is never set -/
theorem recycle_off (sh : Shape) : ∀ (n : Nat) (c : Ctx), c.max = none → c.terminate = false →
    (Ctx.markN sh n c).terminate = false := by
  intro n
  induction n with
  | zero => intro c _ ht; simpa [Ctx.markN] using ht
  | succ n ih =>
    intro c hm ht
    have : c.mark sh = c := by simp [Ctx.mark, hm]
    simp only [Ctx.markN, this]
    exact ih c hm ht

theorem recycle_off_config (sh : Shape) (j n : Nat) : (Ctx.markN sh n (Ctx.new sh (budget sh none j))).terminate = false :=
  recycle_off sh n _ (by simp [Ctx.new, budget]) (by simp [Ctx.new])

/-- the worker model of C14/C15 (`W.markRequest`) is this counter: same comparator, increment 1, start 0 -/
theorem markRequest_is_mark (s : W) (sh : Shape) (hs : Current sh) (hcmp : s.rt.recycleCmp = sh.cmp) :
    s.markRequest.triggerPending =
      (s.triggerPending || (Ctx.mark sh { max := s.cfg.maxRequests, requests := s.requests, terminate := false }).terminate) ∧
    s.markRequest.requests = (Ctx.mark sh { max := s.cfg.maxRequests, requests := s.requests, terminate := false }).requests := by
  obtain ⟨_, hi, _, _, _⟩ := current_facts sh hs
  cases hm : s.cfg.maxRequests <;> simp [W.markRequest, Ctx.mark, hm, hcmp, hi]

/-- the runtimes of the worker model carry the extracted comparators -/
theorem runtime_cmp : Runtime.asyncio.recycleCmp = Shape.asyncio.cmp ∧ Runtime.trio.recycleCmp = Shape.trio.cmp := ⟨rfl, rfl⟩

/-- a new application instance is a counted request: with a budget `m` and the comparator `>`, the exit trigger is pending
    afterwards iff it was before or this request is number `m + 1` or later; nothing else of the worker's control state moves -/
private theorem newScope_trigger (s : W) (i m : Nat) (hm : s.cfg.maxRequests = some m) (hc : s.rt.recycleCmp = .gt) :
    (s.newScope i).triggerPending = (s.triggerPending || decide (m < s.requests + 1)) := by
  simp [W.newScope, W.markRequest, hm, hc, Cmp.eval]

/-- while serving, the request that takes the worker over its budget makes the exit path the next action of `worker_serve`:
    `terminated` is set, the listeners are closed, the drain begins (from there on C15's theorems — orderly, bounded, then the
    lifespan shutdown — apply: they hold for every run, whatever set the trigger) -/
theorem recycle_starts_shutdown (s : W) (i m : Nat) (hp : s.phase = .serving) (hx : s.inExitWindow = false)
    (hm : s.cfg.maxRequests = some m) (hc : s.rt.recycleCmp = .gt) (hover : m < s.requests + 1) :
    (s.newScope i).triggerPending = true ∧
    (s.newScope i).srvStep = some (s.newScope i).beginShutdown ∧
    (s.newScope i).beginShutdown.terminated = true ∧ (s.newScope i).beginShutdown.listening = false ∧
    (s.newScope i).beginShutdown.g.triggerTime = some s.now ∧
    (∃ since, (s.newScope i).beginShutdown.phase = .draining since ∨ (s.newScope i).beginShutdown.phase = .closing) := by
  have htp : (s.newScope i).triggerPending = true := by
    rw [newScope_trigger s i m hm hc, decide_eq_true hover, Bool.or_true]
  have hph : (s.newScope i).phase = .serving := hp
  have hxw : (s.newScope i).inExitWindow = false := hx
  refine ⟨htp, by simp [W.srvStep, hph, htp, hxw], rfl, rfl, rfl, s.now, ?_⟩
  simp only [W.beginShutdown]
  split
  · exact .inr rfl
  · exact .inl rfl

/-- … and below the budget nothing happens: the trigger stays as it was -/
theorem below_budget_no_trigger (s : W) (i m : Nat) (hm : s.cfg.maxRequests = some m) (hc : s.rt.recycleCmp = .gt)
    (hunder : s.requests + 1 ≤ m) : (s.newScope i).triggerPending = s.triggerPending := by
  rw [newScope_trigger s i m hm hc, decide_eq_false (by omega), Bool.or_false]

/-- composition with C15 (`bounded`): a worker recycled by its request budget is back within
    `graceful_timeout + shutdown_timeout` of the instant `terminated` was set — for every run -/
theorem recycled_worker_returns (rt : Runtime) (hc : C15.Current rt) (cfg : Cfg) (base j : Nat) (script : List LAct) (cap : Nat)
    (ops : List Op) (s : W) (hr : run (W.init rt { cfg with maxRequests := some (base + j) } script cap) ops = some s)
    (t : Nat) (ht : s.g.triggerTime = some t) :
    (∀ r, s.g.returnTime = some r → r ≤ t + cfg.gracefulTimeout + cfg.shutdownTimeout) ∧
    (s.phase.terminal = false → s.now ≤ t + cfg.gracefulTimeout + cfg.shutdownTimeout) :=
  C15.bounded rt hc { cfg with maxRequests := some (base + j) } script cap ops s hr t ht

-- non-vacuity: base 1, j = 1 (jitter 2): the third request starts the exit, on the model of the whole worker too
example : (Ctx.markN Shape.trio 2 (Ctx.new Shape.trio (budget Shape.trio (some 1) 1))).terminate = false ∧
    (Ctx.markN Shape.trio 3 (Ctx.new Shape.trio (budget Shape.trio (some 1) 1))).terminate = true := by decide
example : (run (W.init .asyncio { C15.cfg0 with maxRequests := some 1 } C15.f18Script 10)
    [.app, .srv, .app, .srv, .connect .h1, .request 0 (some 0), .finish 0, .request 0 (some 2), .srv]).map
    (fun s => decide (s.terminated = true ∧ s.g.scopes = 2 ∧ s.listening = false)) = some true := by decide

/-- both `run.py` draw the jitter the same way and both `mark_request` count the same way (what `Current` fixes) -/
theorem recycle_shape_matches_source : Shape.asyncio = Shape.trio ∧ Shape.asyncio = { cmp := .gt, incr := 1, init := 0, op := .add, lo := 0 } ∧
    Limits.asyncioJitterHiSource = "max_requests_jitter" ∧ Limits.trioJitterHiSource = "max_requests_jitter" ∧
    Limits.asyncioRecycleOffWhenNone = true ∧ Limits.trioRecycleOffWhenNone = true ∧
    Limits.asyncioRecycleOffWhenConfigNone = true ∧ Limits.trioRecycleOffWhenConfigNone = true := by decide

/-- **where the protocols count a request** (extracted on every run): `await self.context.mark_request()` occurs exactly once
    in each protocol class, as an unconditional statement of `_create_stream` - the only method that constructs a stream
    object - and on HTTP/2 `_create_stream` is what received HEADERS (`_handle_events`), the HTTP/1.1 request of an
    `Upgrade: h2c` connection (`initiate`) and pushed streams (`_create_server_push`) all go through: whatever kind of
    connection brings a request, the application instance it starts has been counted -/
theorem mark_request_sites_match_source :
    Limits.h11MarkRequestIn = "_create_stream" ∧ Limits.h11MarkRequestUnconditional = true ∧ Limits.h11StreamConstructedIn = ["_create_stream"] ∧
    Limits.h2MarkRequestIn = "_create_stream" ∧ Limits.h2MarkRequestUnconditional = true ∧ Limits.h2StreamConstructedIn = ["_create_stream"] ∧
    "initiate" ∈ Limits.h2CreateStreamCallers ∧ "_handle_events" ∈ Limits.h2CreateStreamCallers ∧
    "_handle_events" ∈ Limits.h11CreateStreamCallers := by decide

/-- what one connection adds to the worker's counter: every stream it creates (justified by `mark_request_sites_match_source`).
    An `Upgrade: h2c` connection counts its HTTP/1.1 request (served on stream 1) and every further stream; a WebSocket
    handshake is a request like any other -/
inductive Conn where
  | h1 (requests : Nat)
  | h2 (streams : Nat)
  | h2c (furtherStreams : Nat)
  | ws
deriving Repr, DecidableEq

def Conn.taken : Conn → Nat
  | .h1 n => n
  | .h2 n => n
  | .h2c n => n + 1
  | .ws => 1

def taken (cs : List Conn) : Nat := (cs.map Conn.taken).sum

/-- **recycling counts over all connections of the worker, of every kind**: `terminate` is set iff the requests taken on over
    the whole history of connections exceed the budget -/
theorem recycle_over_connections (sh : Shape) (hs : Current sh) (base jitter j : Nat) (hj : drawn sh jitter j) (cs : List Conn) :
    (Ctx.markN sh (taken cs) (Ctx.new sh (budget sh (some base) j))).terminate = true ↔ base + j < taken cs :=
  recycle_iff sh hs base jitter j hj (taken cs)

/-- clients that only ever send `Upgrade: h2c` requests, one per connection, recycle the worker like everybody else -/
theorem recycle_h2c_only (sh : Shape) (hs : Current sh) (base jitter j : Nat) (hj : drawn sh jitter j) (n : Nat) :
    (Ctx.markN sh (taken (List.replicate n (Conn.h2c 0))) (Ctx.new sh (budget sh (some base) j))).terminate = true ↔ base + j < n := by
  have : taken (List.replicate n (Conn.h2c 0)) = n := by
    induction n with
    | zero => rfl
    | succ k ih => simp only [taken, List.replicate_succ, List.map_cons, List.sum_cons, Conn.taken] at ih ⊢; omega
  rw [this]
  exact recycle_iff sh hs base jitter j hj n

end recycle

/-! ## HTTP/2: settings, refusals, the request maximum -/
section h2
open HC.Proto.H2Lim

/-- for every configuration the first SETTINGS frame carries
    MAX_CONCURRENT_STREAMS (3) = `h2_max_concurrent_streams`, MAX_HEADER_LIST_SIZE (6) = `h2_max_header_list_size`,
    ENABLE_CONNECT_PROTOCOL (8) = 1 (the extracted table), and the HPACK decoder enforces the same header-list limit it
    advertises -/
theorem h2_settings_advertised (c : Cfg) :
    advertised c = [(3, c.maxStreams), (6, c.maxHeaderList), (8, 1)] ∧ enforcedHeaderList c = some c.maxHeaderList := by
  constructor
  · have h1 : litNat "1" = some 1 := by decide
    simp [advertised, Limits.h2Settings, settingCode, Cfg.attr, h1]
  · simp [enforcedHeaderList, Limits.h2DecoderLimitSource, Cfg.attr]

/-- hpack's running check is a check of the whole list: field sizes only add up -/
theorem oversized_iff (limit : Nat) (fs : List Field) : ∀ acc, acc ≤ limit →
    (oversized limit fs acc = true ↔ limit < acc + listSize fs) := by
  induction fs with
  | nil => intro acc h; simp [oversized, listSize]; omega
  | cons f fs ih =>
    intro acc hacc
    simp only [oversized, Limits.hpackListCmp, Cmp.eval, listSize, List.map_cons, List.sum_cons]
    by_cases h : limit < acc + fieldSize f
    · simp [h]; omega
    · have := ih (acc + fieldSize f) (by omega)
      simp only [listSize] at this
      simp [h, this]; omega

/-- a field costs name + value + 32 -/
theorem fieldSize_spec (f : Field) : fieldSize f = f.1 + f.2 + 32 := by simp [fieldSize, Limits.hpackEntryOverhead]

/-- what h2 does with a HEADERS frame for a new stream, in terms of the configured limits (boundaries exact) -/
theorem recvFrame_spec (c : Cfg) (l : Lib) (f : Frame) :
    recvFrame c l f =
      (if l.closed = true then .error PROTOCOL_ERROR
       else if f.sid ≤ l.highest ∨ f.sid % 2 = 0 then .error PROTOCOL_ERROR
       else if c.maxStreams < l.opened.length + 1 then .error PROTOCOL_ERROR
       else if c.maxHeaderList < listSize f.fields then .error ENHANCE_YOUR_CALM
       else .ok { l with opened := l.opened ++ [f.sid], highest := f.sid }) := by
  have hov : oversized c.maxHeaderList f.fields 0 = decide (c.maxHeaderList < listSize f.fields) := by
    have := oversized_iff c.maxHeaderList f.fields 0 (Nat.zero_le _)
    rw [Nat.zero_add] at this
    rw [Bool.eq_iff_iff, this, decide_eq_true_eq]
  simp only [recvFrame, (h2_settings_advertised c).2, Limits.h2StreamsCmp, Limits.h2StreamsLhsPlus, Cmp.eval, hov,
    Bool.or_eq_true, decide_eq_true_eq, beq_iff_eq]

/-- when `receive_data` raises, the read hands no event to hypercorn: nothing of it reaches an application -/
theorem step_read_error (c : Cfg) (s : St) (fs : List Frame) (l : Lib) (code : Nat) (hu : s.upClosed = false)
    (h : recvAll c s.lib fs [] = .error (l, code)) :
    (step c s (.read fs)).served = s.served ∧ (step c s (.read fs)).pushed = s.pushed ∧ (step c s (.read fs)).upClosed = true ∧
    (step c s (.read fs)).lib.closed = true ∧ (step c s (.read fs)).goaways = s.goaways ++ [(l.highest, code)] := by
  simp [step, hu, h]

/-- with `h2_max_concurrent_streams` streams open, a HEADERS frame for one more never
    reaches an application: the read fails as a whole (GOAWAY PROTOCOL_ERROR, `Closed`) — against a client that ignores
    the advertised setting; for every limit, 0 included -/
theorem h2_excess_stream_refused (c : Cfg) (s : St) (f : Frame) (fs : List Frame) (hu : s.upClosed = false)
    (hfull : c.maxStreams ≤ s.lib.opened.length) :
    (step c s (.read (f :: fs))).served = s.served ∧ (step c s (.read (f :: fs))).upClosed = true ∧
    (step c s (.read (f :: fs))).lib.closed = true ∧
    ∃ g, (step c s (.read (f :: fs))).goaways = s.goaways ++ [(s.lib.highest, g)] ∧ g = PROTOCOL_ERROR := by
  have hf : recvFrame c s.lib f = .error PROTOCOL_ERROR := by
    have : c.maxStreams < s.lib.opened.length + 1 := by omega
    simp only [recvFrame_spec, this, if_true, ite_self]
  have := step_read_error c s (f :: fs) s.lib PROTOCOL_ERROR hu (by simp [recvAll, hf])
  exact ⟨this.1, this.2.2.1, this.2.2.2.1, _, this.2.2.2.2, rfl⟩

/-- **header list**: a block beyond `h2_max_header_list_size` (h2's accounting: name + value + 32 per field) is refused
    with the connection (`Closed`, and a GOAWAY: ENHANCE_YOUR_CALM, or PROTOCOL_ERROR when h2 refuses the frame for its stream
    id or the stream limit before it decodes the block), nothing of the read reaches an application; a block of exactly the
    limit is not refused for its size (`h2_header_list_at_limit_accepted`) -/
theorem h2_header_list_refused (c : Cfg) (s : St) (f : Frame) (fs : List Frame) (hu : s.upClosed = false)
    (hbig : c.maxHeaderList < listSize f.fields) :
    (step c s (.read (f :: fs))).served = s.served ∧ (step c s (.read (f :: fs))).upClosed = true ∧
    ∃ g, (step c s (.read (f :: fs))).goaways = s.goaways ++ [(s.lib.highest, g)] ∧ (g = ENHANCE_YOUR_CALM ∨ g = PROTOCOL_ERROR) := by
  have hf : ∃ g, recvFrame c s.lib f = .error g ∧ (g = ENHANCE_YOUR_CALM ∨ g = PROTOCOL_ERROR) := by
    rw [recvFrame_spec, if_pos hbig]
    by_cases h : s.lib.closed = true ∨ (f.sid ≤ s.lib.highest ∨ f.sid % 2 = 0) ∨ c.maxStreams < s.lib.opened.length + 1
    · exact ⟨PROTOCOL_ERROR, by rcases h with h | h | h <;> simp only [h, if_true, ite_self], .inr rfl⟩
    · obtain ⟨h1, h23⟩ := not_or.mp h
      obtain ⟨h2, h3⟩ := not_or.mp h23
      exact ⟨ENHANCE_YOUR_CALM, by rw [if_neg h1, if_neg h2, if_neg h3], .inl rfl⟩
  obtain ⟨g, hg, hcode⟩ := hf
  have := step_read_error c s (f :: fs) s.lib g hu (by simp [recvAll, hg])
  exact ⟨this.1, this.2.2.1, g, this.2.2.2.2, hcode⟩

theorem h2_header_list_at_limit_accepted (c : Cfg) (l : Lib) (f : Frame) (hc : l.closed = false) (hnew : l.highest < f.sid)
    (hodd : f.sid % 2 = 1) (hroom : l.opened.length + 1 ≤ c.maxStreams) (hfit : listSize f.fields ≤ c.maxHeaderList) :
    recvFrame c l f = .ok { l with opened := l.opened ++ [f.sid], highest := f.sid } := by
  rw [recvFrame_spec, if_neg (by simp [hc]), if_neg (by omega), if_neg (by omega), if_neg (by omega)]

/-! ### the request maximum on HTTP/2 -/

/-- one `RequestReceived`: the stream is served, the counter moves by one, and — *after that* — `close_connection()`
    (GOAWAY with h2's highest inbound stream id) iff the counter now exceeds `keep_alive_max_requests` -/
theorem onRequest_spec (c : Cfg) (s : St) (sid : Nat) :
    (onRequest c s sid).served = s.served ++ [sid] ∧ (onRequest c s sid).kar = s.kar + 1 ∧
    (onRequest c s sid).lib.highest = s.lib.highest ∧ (onRequest c s sid).lib.opened = s.lib.opened ∧
    (onRequest c s sid).pushed = s.pushed ∧ (onRequest c s sid).upClosed = s.upClosed ∧
    (if c.keepAliveMax < s.kar + 1
      then (onRequest c s sid).lib.closed = true ∧ (onRequest c s sid).goaways = s.goaways ++ [(s.lib.highest, NO_ERROR)]
      else (onRequest c s sid).lib.closed = s.lib.closed ∧ (onRequest c s sid).goaways = s.goaways) := by
  simp only [onRequest, Limits.h2CmpAfterCreate, Limits.h2IncrCreateStream, Guards.h2KeepAliveCmp, Cmp.eval, if_true]
  by_cases h : c.keepAliveMax < s.kar + 1 <;> simp [h, closeConnection]

/-- what the theorems below maintain in every reachable state -/
structure Inv (c : Cfg) (s : St) : Prop where
  /-- exact accounting: one per served client stream, two per pushed stream (`_create_server_push` adds its own
      increment to the one of `_create_stream`) -/
  exact : s.kar = s.served.length + 2 * s.pushed.length
  /-- served streams are covered by h2's highest inbound stream id -/
  covered : ∀ sid ∈ s.served, sid ≤ s.lib.highest
  /-- every GOAWAY names the highest inbound stream id, and once one is out the connection is closed for new streams -/
  goaway : ∀ g ∈ s.goaways, g.1 = s.lib.highest ∧ s.lib.closed = true
  /-- `Closed` is only sent after h2 closed the connection -/
  closedUp : s.upClosed = true → s.lib.closed = true
  /-- h2 never holds more open inbound streams than the configured maximum -/
  streams : s.lib.opened.length ≤ c.maxStreams

theorem inv_init (c : Cfg) : Inv c {} := ⟨by simp [Limits.h2CounterInit], by simp, by simp, by simp, by simp⟩

/-- a HEADERS frame that h2 accepts: the connection was open, the stream id new, there was room, and the stream is opened -/
private theorem recvFrame_ok {c : Cfg} {l l1 : Lib} {f : Frame} (h : recvFrame c l f = .ok l1) :
    l.closed = false ∧ l.highest < f.sid ∧ l.opened.length + 1 ≤ c.maxStreams ∧
    l1 = { l with opened := l.opened ++ [f.sid], highest := f.sid } := by
  rw [recvFrame_spec] at h
  by_cases h1 : l.closed = true
  · rw [if_pos h1] at h; cases h
  by_cases h2 : f.sid ≤ l.highest ∨ f.sid % 2 = 0
  · rw [if_neg h1, if_pos h2] at h; cases h
  by_cases h3 : c.maxStreams < l.opened.length + 1
  · rw [if_neg h1, if_neg h2, if_pos h3] at h; cases h
  by_cases h4 : c.maxHeaderList < listSize f.fields
  · rw [if_neg h1, if_neg h2, if_neg h3, if_pos h4] at h; cases h
  rw [if_neg h1, if_neg h2, if_neg h3, if_neg h4] at h
  exact ⟨by simpa using h1, by omega, by omega, (Except.ok.inj h).symm⟩

private theorem recvAll_ok (c : Cfg) : ∀ (fs : List Frame) (l l' : Lib) (acc sids : List Nat),
    recvAll c l fs acc = .ok (l', sids) → l.opened.length ≤ c.maxStreams →
    (l.closed = true → l' = l) ∧ l'.closed = l.closed ∧ l.highest ≤ l'.highest ∧ l'.opened.length ≤ c.maxStreams ∧
    (∃ new, sids = acc ++ new ∧ ∀ x ∈ new, x ≤ l'.highest) := by
  intro fs
  induction fs with
  | nil =>
    intro l l' acc sids h hs
    simp only [recvAll, Except.ok.injEq, Prod.mk.injEq] at h
    obtain ⟨rfl, rfl⟩ := h
    exact ⟨fun _ => rfl, rfl, Nat.le_refl _, hs, [], by simp, by simp⟩
  | cons f fs ih =>
    intro l l' acc sids h hs
    simp only [recvAll] at h
    split at h
    · cases h
    · rename_i l1 hl1
      obtain ⟨h1, h2, h3, rfl⟩ := recvFrame_ok hl1
      obtain ⟨_, i2, i3, i4, new, i5, i6⟩ := ih _ l' _ sids h (by simp; omega)
      simp only at i2 i3
      refine ⟨fun hc => (by rw [h1] at hc; cases hc), i2, by omega, i4, f.sid :: new, by simp [i5], ?_⟩
      intro x hx
      rcases List.mem_cons.mp hx with rfl | hx
      · exact i3
      · exact i6 x hx

private theorem recvAll_err (c : Cfg) : ∀ (fs : List Frame) (l l' : Lib) (acc : List Nat) (code : Nat),
    recvAll c l fs acc = .error (l', code) → l.opened.length ≤ c.maxStreams →
    (l.closed = true → l' = l) ∧ l.highest ≤ l'.highest ∧ l'.opened.length ≤ c.maxStreams := by
  intro fs
  induction fs with
  | nil => intro l l' acc code h; simp [recvAll] at h
  | cons f fs ih =>
    intro l l' acc code h hs
    simp only [recvAll] at h
    split at h
    · simp only [Except.error.injEq, Prod.mk.injEq] at h
      obtain ⟨rfl, _⟩ := h
      exact ⟨fun _ => rfl, Nat.le_refl _, hs⟩
    · rename_i l1 hl1
      obtain ⟨h1, h2, h3, rfl⟩ := recvFrame_ok hl1
      obtain ⟨_, i2, i3⟩ := ih _ l' _ code h (by simp; omega)
      simp only at i2
      exact ⟨fun hc => (by rw [h1] at hc; cases hc), by omega, i3⟩

private theorem onRequest_inv (c : Cfg) (s : St) (sid : Nat) (h : Inv c s) (hx : sid ≤ s.lib.highest) :
    Inv c (onRequest c s sid) := by
  obtain ⟨o1, o2, o3, o4, o5, o6, o7⟩ := onRequest_spec c s sid
  have hex := h.exact
  refine ⟨by rw [o1, o2, o5, List.length_append]; simp; omega, ?_, ?_, ?_, o4 ▸ h.streams⟩
  · intro x hx'
    rw [o3]
    rcases List.mem_append.mp (o1 ▸ hx') with hx' | hx'
    · exact h.covered x hx'
    · rw [List.mem_singleton.mp hx']; exact hx
  · intro g hg
    rw [o3]
    split at o7
    · rcases List.mem_append.mp (o7.2 ▸ hg) with hg | hg
      · exact ⟨(h.goaway g hg).1, o7.1⟩
      · rw [List.mem_singleton.mp hg]; exact ⟨rfl, o7.1⟩
    · rw [o7.1]; exact h.goaway g (o7.2 ▸ hg)
  · intro hu
    split at o7
    · exact o7.1
    · rw [o7.1]; exact h.closedUp (o6 ▸ hu)

private theorem onRequests_inv (c : Cfg) : ∀ (sids : List Nat) (s : St), Inv c s → (∀ x ∈ sids, x ≤ s.lib.highest) →
    Inv c (onRequests c s sids)
  | [], _, h, _ => h
  | sid :: rest, s, h, hx =>
    onRequests_inv c rest _ (onRequest_inv c s sid h (hx sid (by simp)))
      (fun x hx' => (onRequest_spec c s sid).2.2.1 ▸ hx x (by simp [hx']))

/-- the invariant is preserved by every op -/
theorem inv_step (c : Cfg) (s : St) (o : Op) (h : Inv c s) : Inv c (step c s o) := by
  cases o with
  | read fs =>
    simp only [step]
    split
    · exact h
    · split
      · rename_i l code hr
        obtain ⟨e1, e2, e3⟩ := recvAll_err c fs s.lib l [] code hr h.streams
        refine ⟨h.exact, fun x hx => Nat.le_trans (h.covered x hx) e2, ?_, by simp, e3⟩
        intro g hg
        rcases List.mem_append.mp hg with hg | hg
        · have := h.goaway g hg
          have hl := e1 this.2
          exact ⟨by rw [this.1, hl], rfl⟩
        · simp at hg; subst hg; exact ⟨rfl, rfl⟩
      · rename_i l sids hr
        obtain ⟨a1, a2, a3, a4, new, a5, a6⟩ := recvAll_ok c fs s.lib l [] sids hr h.streams
        simp only [List.nil_append] at a5
        subst a5
        have hI : Inv c { s with lib := l } := by
          refine ⟨h.exact, fun x hx => Nat.le_trans (h.covered x hx) a3, ?_, fun hu => by simpa [a2] using h.closedUp hu, a4⟩
          intro g hg
          have := h.goaway g hg
          have hl := a1 this.2
          exact ⟨by rw [this.1, hl], by rw [hl]; exact this.2⟩
        exact onRequests_inv c sids _ hI a6
  | push accepted =>
    simp only [step]
    split
    · exact ⟨by simp [Limits.h2PushCallsCreateStream, Limits.h2IncrCreateStream, Limits.h2IncrServerPushExtra]; have := h.exact; omega,
        h.covered, h.goaway, h.closedUp, h.streams⟩
    · exact h
  | done sid =>
    simp only [step]
    exact ⟨h.exact, h.covered, h.goaway, h.closedUp, Nat.le_trans (List.length_erase_le) h.streams⟩

theorem inv_run (c : Cfg) : ∀ (ops : List Op) (s : St), Inv c s → Inv c (run c s ops) := by
  intro ops
  induction ops with
  | nil => intro s h; exact h
  | cons o os ih => intro s h; exact ih _ (inv_step c s o h)

/-- **streams with higher ids than the GOAWAY's `last_stream_id` are not served** — for every op sequence (any
    batching of HEADERS frames into reads, pushes, stream completions): every served stream id is covered by every
    GOAWAY that was emitted, and at most `h2_max_concurrent_streams` inbound streams are ever open -/
theorem goaway_covers_served (c : Cfg) (ops : List Op) :
    (∀ g ∈ (run c {} ops).goaways, ∀ sid ∈ (run c {} ops).served, sid ≤ g.1) ∧
    (run c {} ops).lib.opened.length ≤ c.maxStreams := by
  have h := inv_run c ops {} (inv_init c)
  exact ⟨fun g hg sid hs => by rw [(h.goaway g hg).1]; exact h.covered sid hs, h.streams⟩

private theorem closed_step (c : Cfg) (s : St) (o : Op) (hc : s.lib.closed = true) :
    (step c s o).lib.closed = true ∧ (step c s o).served = s.served ∧ (step c s o).pushed = s.pushed := by
  cases o with
  | read fs =>
    simp only [step]
    split
    · exact ⟨hc, rfl, rfl⟩
    · cases fs with
      | nil => simp [recvAll, onRequests, hc]
      | cons f fs =>
        have : recvFrame c s.lib f = .error PROTOCOL_ERROR := by rw [recvFrame_spec]; simp [hc]
        simp [recvAll, this]
  | push accepted => simp [step, hc]
  | done sid => simp [step, hc]

/-- **once the GOAWAY is out nothing more is served on the connection**: after `close_connection()` (or a connection
    error) no later read, in whatever segmentation, starts an application instance, and no push is accepted -/
theorem nothing_served_after_goaway (c : Cfg) : ∀ (ops : List Op) (s : St), s.lib.closed = true →
    (run c s ops).served = s.served ∧ (run c s ops).pushed = s.pushed ∧ (run c s ops).lib.closed = true := by
  intro ops
  induction ops with
  | nil => intro s h; exact ⟨rfl, rfl, h⟩
  | cons o os ih =>
    intro s h
    obtain ⟨a, b, d⟩ := closed_step c s o h
    obtain ⟨i1, i2, i3⟩ := ih _ a
    exact ⟨by simp only [run]; rw [i1, b], by simp only [run]; rw [i2, d], i3⟩

/-- a read that carries one HEADERS frame: the request it opens is handled, or h2's refusal ends the connection -/
private theorem step_read_one (c : Cfg) (s : St) (f : Frame) (hu : s.upClosed = false) :
    step c s (.read [f]) = match recvFrame c s.lib f with
      | .ok l => onRequest c { s with lib := l } f.sid
      | .error code =>
        { s with lib := { s.lib with closed := true }, goaways := s.goaways ++ [(s.lib.highest, code)], upClosed := true } := by
  simp only [step, hu, recvAll]
  cases recvFrame c s.lib f <;> rfl

/-- **the request that trips the limit**: a request arriving when `keep_alive_max_requests`
    requests have been counted (`kar = L`: request number `L + 1` when nothing was pushed) is still served, and the
    GOAWAY naming it goes out in the same read; a request arriving earlier causes no GOAWAY — one more than on HTTP/1 -/
theorem keep_alive_max_h2 (c : Cfg) (s : St) (f : Frame) (hu : s.upClosed = false) (hc : s.lib.closed = false)
    (hnew : s.lib.highest < f.sid) (hodd : f.sid % 2 = 1) (hroom : s.lib.opened.length + 1 ≤ c.maxStreams)
    (hfit : listSize f.fields ≤ c.maxHeaderList) :
    (step c s (.read [f])).served = s.served ++ [f.sid] ∧
    (c.keepAliveMax < s.kar + 1 → (step c s (.read [f])).goaways = s.goaways ++ [(f.sid, NO_ERROR)] ∧ (step c s (.read [f])).lib.closed = true) ∧
    (s.kar + 1 ≤ c.keepAliveMax → (step c s (.read [f])).goaways = s.goaways ∧ (step c s (.read [f])).lib.closed = false) := by
  have hf := h2_header_list_at_limit_accepted c s.lib f hc hnew hodd hroom hfit
  obtain ⟨o1, _, _, _, _, _, o7⟩ := onRequest_spec c { s with lib := { s.lib with opened := s.lib.opened ++ [f.sid], highest := f.sid } } f.sid
  rw [step_read_one c s f hu, hf]
  refine ⟨o1, ?_, ?_⟩
  · intro h; simp only [h, if_true] at o7; exact ⟨o7.2, o7.1⟩
  · intro h
    have : ¬ c.keepAliveMax < s.kar + 1 := by omega
    simp only [this, if_false] at o7
    exact ⟨o7.2, by rw [o7.1]; exact hc⟩

/-- reads that carry at most one HEADERS frame (a client that waits for nothing but does not batch) -/
def Singleton (ops : List Op) : Prop := ∀ o ∈ ops, ∀ fs, o = Op.read fs → fs.length ≤ 1

/-- the full count statement: at most `keep_alive_max_requests + 1` client requests are served per connection -/
def ServedAtMost (c : Cfg) (ops : List Op) : Prop := (run c {} ops).served.length ≤ c.keepAliveMax + 1

private theorem singleton_step (c : Cfg) (s : St) (o : Op) (hI : Inv c s) (ho : ∀ fs, o = Op.read fs → fs.length ≤ 1)
    (h1 : s.lib.closed = false → s.served.length ≤ c.keepAliveMax) (h2 : s.served.length ≤ c.keepAliveMax + 1) :
    ((step c s o).lib.closed = false → (step c s o).served.length ≤ c.keepAliveMax) ∧ (step c s o).served.length ≤ c.keepAliveMax + 1 := by
  cases hcl : s.lib.closed with
  | true =>
    obtain ⟨a, b, _⟩ := closed_step c s o hcl
    exact ⟨fun h => (by rw [a] at h; cases h), (by rw [b]; exact h2)⟩
  | false =>
    have h1' := h1 hcl
    cases o with
    | push accepted => simp only [step]; split <;> exact ⟨fun _ => h1', h2⟩
    | done sid => simp only [step]; exact ⟨fun _ => h1', h2⟩
    | read fs =>
      cases hu : s.upClosed with
      | true => simp only [step, hu, if_true]; exact ⟨fun _ => h1', h2⟩
      | false =>
        match fs, ho fs rfl with
        | [], _ =>
          have : (step c s (.read [])).served = s.served := by simp [step, hu, recvAll, onRequests]
          rw [this]; exact ⟨fun _ => h1', h2⟩
        | [f], _ =>
          rw [step_read_one c s f hu]
          cases recvFrame c s.lib f with
          | error code => exact ⟨fun h => (by cases h), h2⟩
          | ok l =>
            obtain ⟨o1, _, _, _, _, _, o7⟩ := onRequest_spec c { s with lib := l } f.sid
            have hex := hI.exact
            simp only [o1, List.length_append, List.length_singleton]
            refine ⟨fun hopen => ?_, by omega⟩
            split at o7
            · rw [o7.1] at hopen; cases hopen
            · simp only at *; omega

/-- the count from any state of the invariant: while the connection is open at most `keep_alive_max_requests` requests have
    been served, and the one that closes it is the last -/
private theorem count_from (c : Cfg) : ∀ (ops : List Op) (s : St), Inv c s → Singleton ops →
    (s.lib.closed = false → s.served.length ≤ c.keepAliveMax) → s.served.length ≤ c.keepAliveMax + 1 →
    (run c s ops).served.length ≤ c.keepAliveMax + 1 := by
  intro ops
  induction ops with
  | nil => intro s _ _ _ h; exact h
  | cons o os ih =>
    intro s hI ho h1 h2
    obtain ⟨a, b⟩ := singleton_step c s o hI (ho o (by simp)) h1 h2
    exact ih _ (inv_step c s o hI) (fun o' ho' => ho o' (by simp [ho'])) a b

/-- when every read carries at most one HEADERS frame, at most `keep_alive_max_requests + 1` client requests are served on a
    connection, for every limit (0 included), any number of pushes and stream completions in between -/
theorem keep_alive_max_h2_count_partial (c : Cfg) (ops : List Op) (hs : Singleton ops) : ServedAtMost c ops :=
  count_from c ops {} (inv_init c) hs (by simp) (by simp)

/-- a HEADERS frame for the examples: one field of size 7 + 3 + 32, well under every limit used below -/
def frame (sid : Nat) : Frame := { sid := sid, fields := [(7, 3)] }

/-- … and **the count fails as the code is** (known finding F47): h2 parses a whole read before hypercorn sees the
    first `RequestReceived`, and the comparison follows each stream's creation, so every HEADERS frame that shares a
    read with request `L + 1` is served as well (limit 0, three requests in one read: three instances, three GOAWAYs) -/
theorem keep_alive_max_h2_count_fails_as_is : ¬ ∀ (c : Cfg) (ops : List Op), ServedAtMost c ops := by
  intro h
  have := h { keepAliveMax := 0, maxStreams := 100, maxHeaderList := 65536 } [.read [frame 1, frame 3, frame 5]]
  unfold ServedAtMost at this
  revert this
  decide

/-- "counted once per created stream": true for client streams (`Inv.exact` with nothing pushed), false for pushed
    streams, which are counted twice — the limit is then reached earlier, never later -/
def CountedOnce (s : St) : Prop := s.kar = s.served.length + s.pushed.length

theorem counted_once_partial (c : Cfg) (ops : List Op) (hp : (run c {} ops).pushed = []) : CountedOnce (run c {} ops) := by
  have := (inv_run c ops {} (inv_init c)).exact
  simp only [CountedOnce, hp, List.length_nil] at *
  omega

theorem counted_once_fails_as_is : ¬ ∀ (c : Cfg) (ops : List Op), CountedOnce (run c {} ops) := by
  intro h
  have := h { keepAliveMax := 10, maxStreams := 100, maxHeaderList := 65536 } [.read [frame 1], .push true]
  unfold CountedOnce at this
  revert this
  decide

-- non-vacuity: limit 2, one request per read: three are served, the GOAWAY names stream 5, the fourth is not served
example : let s := run { keepAliveMax := 2, maxStreams := 100, maxHeaderList := 65536 } {} [.read [frame 1], .read [frame 3], .read [frame 5], .read [frame 7]]
    s.served = [1, 3, 5] ∧ s.goaways = [(5, 0), (5, 1)] ∧ s.upClosed = true := by decide
-- the concurrent-stream limit against a client that ignores it: two open, the third closes the connection unserved
example : let s := run { keepAliveMax := 1000, maxStreams := 2, maxHeaderList := 65536 } {} [.read [frame 1], .read [frame 3], .read [frame 5]]
    s.served = [1, 3] ∧ s.goaways = [(3, 1)] ∧ s.upClosed = true := by decide
-- header list of 1000 (limit 1000) accepted, 1001 refused
example : let c : Cfg := { keepAliveMax := 1000, maxStreams := 100, maxHeaderList := 1000 }
    (run c {} [.read [{ sid := 1, fields := [(5, 931), (0, 0)] }]]).served = [1] ∧
    (run c {} [.read [{ sid := 1, fields := [(5, 932), (0, 0)] }]]).served = [] ∧
    (run c {} [.read [{ sid := 1, fields := [(5, 932), (0, 0)] }]]).goaways = [(0, 11)] := by decide

/-! ### the response of the request that trips the limit (F48), and the `Upgrade: h2c` opening (F112) -/

/-- a request served below the limit can still be answered when the read has been handled -/
theorem response_below_max_deliverable (c : Cfg) (s : St) (f : Frame) (hu : s.upClosed = false) (hc : s.lib.closed = false)
    (hnew : s.lib.highest < f.sid) (hodd : f.sid % 2 = 1) (hroom : s.lib.opened.length + 1 ≤ c.maxStreams)
    (hfit : listSize f.fields ≤ c.maxHeaderList) (h : s.kar + 1 ≤ c.keepAliveMax) :
    responseDeliverable (step c s (.read [f])) f.sid = true := by
  obtain ⟨h1, _, h3⟩ := keep_alive_max_h2 c s f hu hc hnew hodd hroom hfit
  simp [responseDeliverable, h1, (h3 h).2]

/-- **F48, as the code is**: the request that trips `keep_alive_max_requests` is served - an application instance runs
    for it and the GOAWAY names its stream, so the client will not retry it - but from the moment the comparison has
    run (`close_connection()`: h2's state machine is CLOSED) its response can never be handed to the client, whatever
    happens afterwards; for every limit, every state in which the request is acceptable and every continuation -/
theorem response_at_max_lost (c : Cfg) (s : St) (f : Frame) (hu : s.upClosed = false) (hc : s.lib.closed = false)
    (hnew : s.lib.highest < f.sid) (hodd : f.sid % 2 = 1) (hroom : s.lib.opened.length + 1 ≤ c.maxStreams)
    (hfit : listSize f.fields ≤ c.maxHeaderList) (h : c.keepAliveMax < s.kar + 1) (ops : List Op) :
    f.sid ∈ (run c (step c s (.read [f])) ops).served ∧
    (f.sid, NO_ERROR) ∈ (step c s (.read [f])).goaways ∧
    responseDeliverable (run c (step c s (.read [f])) ops) f.sid = false := by
  obtain ⟨h1, h2, _⟩ := keep_alive_max_h2 c s f hu hc hnew hodd hroom hfit
  obtain ⟨g, cl⟩ := h2 h
  obtain ⟨a, _, b⟩ := nothing_served_after_goaway c ops _ cl
  refine ⟨by rw [a, h1]; simp, by rw [g]; simp, by simp [responseDeliverable, b]⟩

/-- what the statement asks: every served request can be answered (at the end of the run the connection is still one
    its response can be sent on) -/
def ServedAreAnswerable (c : Cfg) (ops : List Op) : Prop :=
  ∀ sid ∈ (run c {} ops).served, responseDeliverable (run c {} ops) sid = true

/-- `_partial`: true of every run in which the request maximum (or any other connection error) has not been reached -/
theorem served_answerable_partial (c : Cfg) (ops : List Op) (h : (run c {} ops).lib.closed = false) : ServedAreAnswerable c ops := by
  intro sid hs
  simp [responseDeliverable, h, hs]

/-- … and false as the code is (known finding F48): limit 0, one request - served, GOAWAY(1), no response possible -/
theorem served_answerable_fails_as_is : ¬ ∀ (c : Cfg) (ops : List Op), ServedAreAnswerable c ops := by
  intro h
  have := h { keepAliveMax := 0, maxStreams := 100, maxHeaderList := 65536 } [.read [frame 1]] 1 (by decide)
  revert this
  decide

/-- the count on a connection opened by `Upgrade: h2c` (the HTTP/1.1 request is served on stream 1 by `initiate`) -/
def ServedAtMostH2c (c : Cfg) (ops : List Op) : Prop := (run c (afterUpgrade c) ops).served.length ≤ c.keepAliveMax + 1

/-- `initiate` counts the upgrade request but does not compare the counter (`h2InitiateCompares = false`): stream 1 is open and
    served, one request is counted, and no GOAWAY has been sent -/
private theorem afterUpgrade_eq (c : Cfg) :
    afterUpgrade c = { lib := { opened := [1], highest := 1 }, kar := 1, served := [1] } := by
  simp [afterUpgrade, Limits.h2InitiateCompares, Limits.h2CounterInit, Limits.h2IncrCreateStream]

theorem inv_afterUpgrade (c : Cfg) (hm : 1 ≤ c.maxStreams) : Inv c (afterUpgrade c) := by
  rw [afterUpgrade_eq]
  exact ⟨rfl, by simp, by simp, by simp, hm⟩

/-- for every limit of at least 1 an `Upgrade: h2c` connection serves at most `keep_alive_max_requests + 1` requests, the
    upgrade request included (reads carrying at most one HEADERS frame) -/
theorem keep_alive_max_h2c_count_partial (c : Cfg) (ops : List Op) (hs : Singleton ops) (hk : 1 ≤ c.keepAliveMax)
    (hm : 1 ≤ c.maxStreams) : ServedAtMostH2c c ops := by
  have h1 : (afterUpgrade c).served.length = 1 := by rw [afterUpgrade_eq]; rfl
  exact count_from c ops (afterUpgrade c) (inv_afterUpgrade c hm) hs (fun _ => by omega) (by omega)

/-- … and **it fails for limit 0 as the code is** (known finding F112): `initiate` does not compare the counter, so
    the upgrade request is served, and the next request is served too before the comparison runs: two instead of one -/
theorem keep_alive_max_h2c_count_fails_as_is : ¬ ∀ (c : Cfg) (ops : List Op), Singleton ops → ServedAtMostH2c c ops := by
  intro h
  have := h { keepAliveMax := 0, maxStreams := 100, maxHeaderList := 65536 } [.read [frame 3]]
    (by intro o ho fs hfs; simp at ho; subst ho; cases hfs; simp)
  unfold ServedAtMostH2c at this
  revert this
  decide

-- non-vacuity: limit 1 over h2c: the upgrade request and one more are served, the GOAWAY names stream 3, whose response is lost
example : let c : Cfg := { keepAliveMax := 1, maxStreams := 100, maxHeaderList := 65536 }
    let s := run c (afterUpgrade c) [.read [frame 3], .read [frame 5]]
    s.served = [1, 3] ∧ s.goaways = [(3, 0), (3, 1)] ∧ responseDeliverable s 3 = false := by decide

end h2

/-! ## HTTP/1: the incomplete-head limit and the request maximum on the protocol model -/
section h1
open HC.Proto.H11 HC.Lib HC.Stream

/-- the head of hypercorn's own error responses (the same list as `C04.errorHeaders`) -/
def errHeaders (cfg : Proto.H11.Cfg) : Headers := [("content-length".b, "0".b), ("connection".b, "close".b)] ++ cfg.serverHeaders

/-- **`h11_incomplete_limit`, rejected**: on a connection waiting for a request head (new, or recycled: both h11 sides
    IDLE, no stream), h11's `RemoteProtocolError` with its 4xx hint makes `H11Protocol` send exactly one response with
    that status carrying `content-length: 0` and `connection: close`, end it, and send `Closed`; no application instance
    is started by it, and the connection is `Gone`: none will ever be (next theorem) -/
theorem h11_incomplete_rejected (cfg : Proto.H11.Cfg) (st : St) (hpc : st.pc = .inLoop) (hsw : st.switched = false)
    (hcur : st.cur = none) (hs : st.lib.server = .idle) (hw : st.lib.waiting100 = false) :
    ∃ st', onLibEv cfg st (.protoError Limits.h11LibIncompleteHint) =
        some (st', [.libSend (.response Limits.h11LibIncompleteHint (errHeaders cfg)) true, .upRaw 0, .libSend .eom true, .upRaw 0, .upClosed]) ∧
      Gone st.spawns st' ∧ st'.pc = .idle := by
  have hr := connClose_of_mem Limits.h11LibIncompleteHint (errHeaders cfg) (by simp [errHeaders])
  obtain ⟨h1, s2, s3, h2, h3⟩ := H11M.error_response_goes_out st.lib (respInfo Limits.h11LibIncompleteHint (errHeaders cfg)) hs
    (by simp [respInfo, Limits.h11LibIncompleteHint]) hr
  have hd3 : H11M.Dead s3 := H11M.sendEom_dead _ _ h3 (H11M.sendResponse_dead _ _ _ h2 (H11M.recvError_dead _))
  refine ⟨{ st with lib := s3, pc := .idle }, ?_, ⟨hd3, rfl⟩, rfl⟩
  -- the reader is at the top of its loop with no 100-continue to send; there is no live stream, so the error is not ignored, and
  -- the branch of `onLibEvBody` is the one `C04.h1_malformed` computes: the two sends, both taken by h11 (`h2`, `h3`)
  have hbody := C04.h1_malformed cfg st [] Limits.h11LibIncompleteHint (by simp [hcur]) (.inl h1)
  rw [show C04.errorHeaders cfg = errHeaders cfg from rfl] at hbody
  simp only [libSend, h2, h3] at hbody
  simpa [onLibEv, hpc, hsw, loopTop, hw] using hbody

/-- **`h11_incomplete_limit`, keeps waiting**: while h11 answers `NEED_DATA` (at most `L` bytes of the head buffered,
    `feed_waits`) the protocol writes nothing, starts nothing, closes nothing: the reader goes back to wait for bytes -/
theorem h11_incomplete_waits (cfg : Proto.H11.Cfg) (st : St) (hpc : st.pc = .inLoop) (hsw : st.switched = false)
    (hw : st.lib.waiting100 = false) : onLibEv cfg st .needData = some ({ st with pc := .idle }, []) := by
  simp [onLibEv, hpc, hsw, loopTop, hw, onLibEvBody]

/-- **… without ever reaching an application**: from a `Gone` state — in particular after the rejection above, and
    after any response head that announced close (below) — no sequence of further library events, application sends
    (of whatever stream object), `Closed` or termination starts an application instance, and no `Request` event is
    enabled any more -/
theorem nothing_served_when_gone (cfg : Proto.H11.Cfg) (token : Bytes → Bytes) (ext : Option Bytes) (n : Nat) :
    ∀ (ops : List Op) (st st' : St), Gone n st →
      runOps (fun s o => (step cfg token ext s o).map (·.1)) st ops = some st' →
      st'.spawns = n ∧ ∀ r, onLibEv cfg st' (.request r) = none := by
  intro ops st st' hg hr
  have : Gone n st' := by
    refine inv_runOps (fun s o => (step cfg token ext s o).map (·.1)) (Gone n) (fun _ => True) ?_ ops st st' hg (fun _ _ => trivial) hr
    intro s o s' _ hI hs
    simp only [Option.map_eq_some_iff] at hs
    obtain ⟨⟨s1, o1, e1⟩, hstep, rfl⟩ := hs
    exact step_gone n cfg token ext s s1 o o1 e1 hI hstep
  exact ⟨this.2, fun r => no_request_when_gone n cfg st' r this⟩

-- non-vacuity of the hypotheses: a new connection whose reader entered the loop
example : ∃ st', onLibEv { keepAliveMax := 10 } { pc := .inLoop } (.protoError 431) =
    some (st', [.libSend (.response 431 (errHeaders { keepAliveMax := 10 })) true, .upRaw 0, .libSend .eom true, .upRaw 0, .upClosed]) ∧
    Gone 0 st' ∧ st'.pc = .idle :=
  h11_incomplete_rejected { keepAliveMax := 10 } { pc := .inLoop } rfl rfl rfl rfl rfl

/-- **`keep_alive_max_h1`, the head**: the response head of the request counted `k` carries the server's
    `connection: close` **iff** `k ≥ keep_alive_max_requests` (extracted comparator) — for every limit: with the counter
    at least 1 when a response is sent, heads `1 … max(L,1) − 1` do not carry it and head `max(L,1)` does -/
theorem keep_alive_head (status : Nat) (app srv : Headers) (k L : Nat) (hs : 200 ≤ status) :
    Proto.Heads.h11Response status app srv k L =
      .final status (app ++ srv ++ (if L ≤ k then [("connection".b, "close".b)] else [])) := by
  have hfin : Guards.h11FinalStatusCmp.eval status 200 = true := by simp [Guards.h11FinalStatusCmp, Cmp.eval, hs]
  unfold Proto.Heads.h11Response
  rw [if_pos hfin]
  simp only [Guards.h11KeepAliveCmp, Cmp.eval]
  by_cases h : L ≤ k <;> simp [h]

theorem keep_alive_head_index (L k : Nat) (hk : 1 ≤ k) : (L ≤ k ↔ max L 1 ≤ k) := by omega

/-- **`keep_alive_max_h1`, no later request**: when the application of the live stream sends its response head while
    the counter has reached the maximum, h11 is told `connection: close`; if it takes the head, the connection is `Gone`
    from that op on: by `nothing_served_when_gone` no later request — pipelined already or sent afterwards — is served -/
theorem keep_alive_close_ends_reuse (cfg : Proto.H11.Cfg) (st : St) (status : Nat) (app : Headers)
    (hidle : st.lib.client ≠ .idle) (hs : 200 ≤ status) (hmax : cfg.keepAliveMax ≤ st.keepAliveRequests)
    (hok : (H11M.sendResponse st.lib (respInfo status (app ++ cfg.serverHeaders ++ [("connection".b, "close".b)]))).isSome = true) :
    Gone st.spawns (httpStreamSend cfg st (.response status app)).1 ∧
    (httpStreamSend cfg st (.response status app)).2.1 =
      [Out.libSend (.response status (app ++ cfg.serverHeaders ++ [("connection".b, "close".b)])) true, Out.upRaw 0] := by
  have hhead := keep_alive_head status app cfg.serverHeaders st.keepAliveRequests cfg.keepAliveMax hs
  simp only [hmax, if_true] at hhead
  have hclose := connClose_of_mem status (app ++ cfg.serverHeaders ++ [("connection".b, "close".b)]) (by simp)
  obtain ⟨lib', hl⟩ := Option.isSome_iff_exists.mp hok
  have hd := H11M.sendResponse_close_dead _ _ _ hl (by simp only [H11M.respAnnouncesClose, hclose, Bool.true_or]) hidle
  simp only [httpStreamSend, hhead, libSend, hl]
  exact ⟨⟨hd, rfl⟩, rfl⟩

/-- the shape the hand-written `H11Protocol` model has built in is the shape of the source: the counter starts at
    0, moves by one per stream *after* the stream has seen the request (so a server-generated 404 is sent under the
    previous count), is compared with `config.keep_alive_max_requests`, and the h11 limit is `config.h11_max_incomplete_size` -/
theorem h11_model_shape_matches_source :
    Limits.h11CounterInit = 0 ∧ Limits.h11CounterIncr = 1 ∧ Limits.h11IncrAfterHandle = true ∧
    Limits.h11KeepAliveSource = "keep_alive_max_requests" ∧ Limits.h11LimitSource = "h11_max_incomplete_size" ∧
    Limits.h11CloseHeader = ("connection", "close") ∧ ({} : St).keepAliveRequests = Limits.h11CounterInit := by decide

end h1

end HC.Props.C18
