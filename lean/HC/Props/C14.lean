import HC.Worker.Invariants
import HC.Extracted.LifespanSend
import HC.Worker.Escape
/-!
# C14 — Lifespan ordering, failure handling, state isolation

The property theorems, with the few definitions their statements need (`Serving`, `StartedProperly`, the model's send
table, the `except` chain the model assumes) and the runs that refuted earlier versions of the code.  Model:
`HC/Worker/Lifespan.lean`, `HC/Worker/Run.lean`, `HC/Worker/Escape.lean` (exception trees); invariants and their preservation:
`HC/Worker/LifeLemmas.lean`, `HC/Worker/Invariants.lean`; read off the source on every run: `HC/Extracted/LifespanSend.lean`,
`HC/Extracted/LifespanSites.lean`, `HC/Extracted/Guards.lean`.

Every theorem quantifies over **every operation list** `ops` (every schedule of the lifespan task, `worker_serve`,
clients, the trigger and the clock), every lifespan script, every configuration (time-outs, queue bound) and every
`Runtime` unless a hypothesis names a runtime field.  `Runtime.asyncio` / `Runtime.trio` are the two worker classes as the
code is now (`Current`); `Runtime.asyncioBeforeFixes` / `Runtime.trioBeforeFixes` are kept for the record: the runs that
refuted the full statements before the `fix:` commits b14e22f (F16), fa7ea28 (F17), 9c9a997 (F29) are theorems about them.
A clause that depends on a runtime flag appears twice: `…_of_flags` over arbitrary runtimes with hypotheses on the flags, and
the full statement for the current runtimes; the others hold for every runtime as they stand.
-/
namespace HC.Props.C14
open HC HC.Worker

/-- the two worker classes as the code is now (the flags are re-measured on every run of the check) -/
def Current (rt : Runtime) : Prop := rt = Runtime.asyncio ∨ rt = Runtime.trio

/-! ### the model's send alphabet is the source's dispatch

The model's lifespan actions `sendStartupComplete … sendUnknown` stand for *every* message of the respective type, whatever
else it carries or lacks (`{"type": "lifespan.startup.failed"}` without the optional `message` key included).  That this is
what `Lifespan.asgi_send` does is re-decided against the source: the extractor reads the `if/elif` chain of both workers
(`HC/Extracted/LifespanSend.lean`), including whether the arguments of `LifespanFailureError(…)` can be evaluated for every
message of that type (`argsTotal`: constants and `message.get(key, default)` only - a subscript `message["message"]` would
raise `KeyError`, i.e. an *unsupported* application instead of a failed start-up) and whether the event is set before the raise
(the measured runtime flag `failedSetsEvent`, here read off the source as well). -/

open HC.Extracted.LifespanSend in
/-- what the model does with a send action, in the extractor's vocabulary -/
def effectOfAct (rt : Runtime) : LAct → Option Effect
  | .sendStartupComplete => some .setStartup
  | .sendShutdownComplete => some .setShutdown
  -- `startup := l.startup || rt.failedSetsEvent, pending := some (.failure .startup)`, for every payload
  | .sendStartupFailed => some (.raiseFailure "startup" rt.failedSetsEvent true)
  | .sendShutdownFailed => some (.raiseFailure "shutdown" rt.failedSetsEvent true)
  | .sendUnknown => some .raiseUnexpected                           -- `pending := some .other`
  | _ => none

open HC.Extracted.LifespanSend in
def modelSendTable (rt : Runtime) : List (String × Effect) :=
  LAct.sendTypes.filterMap (fun p => (effectOfAct rt p.2).map (fun e => (p.1, e)))

open HC.Extracted.LifespanSend in
/-- **`asgi_send` of both workers is the model's send alphabet**: the same message types in the same order with the same
    effect, `lifespan.startup.failed` / `lifespan.shutdown.failed` raise `LifespanFailureError` of the right stage for every
    message of that type (no optional key is required) without setting the event first (`failedSetsEvent` of the current
    runtimes), anything else raises `UnexpectedMessageError` -/
theorem asgi_send_dispatch :
    asyncioSendTable = modelSendTable Runtime.asyncio ∧ asyncioSendElse = .raiseUnexpected ∧
    trioSendTable = modelSendTable Runtime.trio ∧ trioSendElse = .raiseUnexpected ∧
    effectOfAct Runtime.asyncio (LAct.ofSendType "lifespan.bogus") = some .raiseUnexpected := by
  decide

/-- something is being, or has been, served -/
def Serving (s : W) : Prop := s.listening = true ∨ s.conns ≠ [] ∨ s.g.scopes > 0 ∨ s.g.accepts > 0

/-- the legitimate reasons for serving: the application does not support lifespan (it raised), or
    `lifespan.startup` was put and the application completed start-up or left the lifespan scope -/
def StartedProperly (s : W) : Prop :=
  s.life.supported = false ∨
  (s.g.startupPuts = 1 ∧ (s.life.completeSeen = true ∨ s.life.exited = true))

theorem serving_everListening (s : W) (hR : Reach s) (h : Serving s) : s.g.everListening = true := by
  by_cases he : s.g.everListening = true
  · exact he
  · have := hR.P.never (by simpa using he)
    rcases h with h | h | h | h
    · simp [this.1] at h
    · exact absurd this.2.1 h
    · omega
    · omega

/-! ### startup before serving -/

/-- serving implies a proper start-up on every runtime that does not set the event for `startup.failed` and, on the
    others, for every script that does not suspend right after `startup.failed` -/
theorem startup_before_serving_of_flags (rt : Runtime) (cfg : Cfg) (script : List LAct) (cap : Nat) (ops : List Op) (s : W)
    (h0 : rt.failedSetsEvent = false ∨ failedThenAwait script = false)
    (hr : run (W.init rt cfg script cap) ops = some s) (hs : Serving s) : StartedProperly s := by
  obtain ⟨hR, -⟩ := reach_run rt cfg script cap ops s hr
  have hH := reachH_run rt cfg script cap ops s h0 hr
  rcases hR.G.good (serving_everListening s hR hs) with hw | ⟨hw1, hw | hw | ⟨hw2, hw3⟩⟩
  · exact Or.inl hw
  · exact Or.inr ⟨hw1, Or.inl hw⟩
  · exact Or.inr ⟨hw1, Or.inr hw⟩
  · rcases hH.noF16 with h | ⟨_, h⟩
    · simp [hw2] at h
    · exact absurd hw3 h

/-- **serving implies a proper start-up** — both worker classes, every script, every schedule -/
theorem startup_before_serving (rt : Runtime) (hc : Current rt) (cfg : Cfg) (script : List LAct) (cap : Nat) (ops : List Op)
    (s : W) (hr : run (W.init rt cfg script cap) ops = some s) (hs : Serving s) : StartedProperly s :=
  startup_before_serving_of_flags rt cfg script cap ops s (Or.inl (by rcases hc with rfl | rfl <;> rfl)) hr hs

/-- `lifespan.startup` is the first message the application receives, and it is put at most once -/
theorem startup_first_message (rt : Runtime) (cfg : Cfg) (script : List LAct) (cap : Nat) (ops : List Op) (s : W)
    (hr : run (W.init rt cfg script cap) ops = some s) :
    s.g.startupPuts ≤ 1 ∧ ∀ m, s.life.recvd.head? = some m → m = .startup := by
  obtain ⟨hR, _⟩ := reach_run rt cfg script cap ops s hr
  refine ⟨hR.P.putsLe.1, fun m hm => ?_⟩
  -- what was received and what is queued is the start-up message, if put, then the shutdown message, if put (`InvQ.q`), each
  -- at most once, and there is no shutdown put without a start-up put (`InvQ.q2`): whatever heads `recvd` is `startup`
  cases hrc : s.life.recvd with
  | nil => rw [hrc] at hm; cases hm
  | cons a rest =>
    rw [hrc] at hm; cases hm
    have hq := hR.Q.q
    rw [hrc] at hq
    have h1 := hR.P.putsLe
    by_cases hsp : s.g.startupPuts = 1
    · rw [hsp] at hq; exact (List.cons.inj hq).1
    · have hsh : s.g.shutdownPuts ≠ 1 := fun h => hsp (hR.Q.q2 h)
      rw [show s.g.startupPuts = 0 by omega, show s.g.shutdownPuts = 0 by omega] at hq
      cases hq

/-- the F16 script: `recv; startup.failed; await` -/
def f16Script : List LAct := [.recv, .sendStartupFailed, .awaitInCleanup]
def f16Ops : List Op := [.app, .srv, .app, .srv, .connect .h1, .request 0 (some 0)]
def cfg0 : Cfg := { startupTimeout := 4, shutdownTimeout := 4, gracefulTimeout := 4, maxRequests := none }

/-- history (F16, fixed by b14e22f): before the fix asyncio set the `startup` event for `startup.failed`, so with the
    application awaiting while it unwinds a request was served and nothing justified it -/
theorem f16_run_before_fix :
    (run (W.init .asyncioBeforeFixes cfg0 f16Script 10) f16Ops).map (fun s => decide
      (s.listening = true ∧ s.g.scopes = 1 ∧ s.g.accepts = 1 ∧ s.life.supported = true ∧ s.life.completeSeen = false ∧
       s.life.exited = false ∧ s.life.failedBeforeComplete = true)) = some true := by decide

/-- history: the full statement was false for `Runtime.asyncioBeforeFixes` — the flag hypothesis of
    `startup_before_serving_of_flags` is needed -/
theorem startup_before_serving_failed_before_fix :
    ¬ (∀ (cfg : Cfg) (script : List LAct) (cap : Nat) (ops : List Op) (s : W),
        run (W.init .asyncioBeforeFixes cfg script cap) ops = some s → Serving s → StartedProperly s) := by
  intro h
  obtain ⟨s, hr, hw⟩ := Option.map_eq_some_iff.mp f16_run_before_fix
  obtain ⟨h1, -, -, h4, h5, h6, -⟩ := of_decide_eq_true hw
  have := h _ _ _ _ s hr (Or.inl h1)
  unfold StartedProperly at this
  rcases this with t | ⟨_, t | t⟩
  · simp [h4] at t
  · simp [h5] at t
  · simp [h6] at t

-- the same script on the code as it is now: while the application unwinds `worker_serve` keeps waiting (its `srv` step is
-- not enabled), and when the task is over it raises the failure; nothing was listened on
example : (run (W.init .asyncio cfg0 f16Script 10) [.app, .srv, .app]).map (fun s => decide
    (s.srvStep.isNone = true ∧ s.listening = false ∧ s.life.startup = false)) = some true := by decide
example : (run (W.init .asyncio cfg0 f16Script 10) [.app, .srv, .app, .app, .srv]).map (fun s => decide
    (s.phase = .failed (.lifespanFailure .startup) ∧ s.g.everListening = false ∧ s.g.accepts = 0)) = some true := by decide
example : (run (W.init .trio cfg0 f16Script 10) [.app, .srv, .app, .app, .srv, .app]).map (fun s => decide
    (s.phase = .failed (.lifespanFailure .startup) ∧ s.g.accepts = 0 ∧ s.g.scopes = 0)) = some true := by decide
example : failedThenAwait [.recv, .sendStartupFailed] = false := by decide
example : failedThenAwait f16Script = true := by decide

/-! ### startup.failed / startup time-out abort the server and nothing is served -/

/-- **`lifespan.startup.failed` before `startup.complete`: no connection is accepted, no scope is created,
    `worker_serve` never returns normally and can only end with the matching error** — on runtimes on which a
    failed lifespan task is noticed (`Noticed`) and without the F16 shape (event set for `startup.failed` + suspension) -/
theorem failed_or_timeout_aborts_of_flags (rt : Runtime) (cfg : Cfg) (script : List LAct) (cap : Nat) (ops : List Op) (s : W)
    (hN : Noticed rt) (h0 : rt.failedSetsEvent = false ∨ failedThenAwait script = false)
    (hr : run (W.init rt cfg script cap) ops = some s) (hf : s.life.failedBeforeComplete = true) :
    s.g.accepts = 0 ∧ s.g.scopes = 0 ∧ s.conns = [] ∧ s.phase ≠ .done ∧
    (∀ e, s.phase = .failed e → OkStartupErr s e) ∧
    -- serving is reached at most inside the leaving task's exit window (trio), where nothing can be accepted
    (s.phase = .serving → s.life.exiting.isSome = true) := by
  obtain ⟨_, hF⟩ := reachF_run rt cfg script cap ops s hN h0 hr
  have := hF.fb hf
  exact ⟨this.acc, this.sco, this.con, this.p4, this.err, fun hp => (this.srv hp).1⟩

theorem noticed_asyncio : Noticed Runtime.asyncio := Or.inr ⟨rfl, rfl⟩
theorem noticed_trio : Noticed Runtime.trio := Or.inl rfl

/-- **`lifespan.startup.failed` before `startup.complete` aborts the server and nothing is served** — both worker classes,
    every script (awaiting in its clean-up or not), every schedule -/
theorem failed_or_timeout_aborts (rt : Runtime) (hc : Current rt) (cfg : Cfg) (script : List LAct) (cap : Nat) (ops : List Op)
    (s : W) (hr : run (W.init rt cfg script cap) ops = some s) (hf : s.life.failedBeforeComplete = true) :
    s.g.accepts = 0 ∧ s.g.scopes = 0 ∧ s.conns = [] ∧ s.phase ≠ .done ∧
    (∀ e, s.phase = .failed e → OkStartupErr s e) ∧ (s.phase = .serving → s.life.exiting.isSome = true) :=
  failed_or_timeout_aborts_of_flags rt cfg script cap ops s
    (by rcases hc with rfl | rfl; exact noticed_asyncio; exact noticed_trio)
    (Or.inl (by rcases hc with rfl | rfl <;> rfl)) hr hf

/-- once the failed task's result is visible, `worker_serve`'s next action is to raise it (asyncio: the
    `lifespan_task.done()` check; trio raises at once, inside the `app` operation) -/
theorem failure_fires (s : W) (since : Nat) (e : ServeErr) (hp : s.phase = .waitingStartup since)
    (hs : s.life.startup = true) (hck : s.rt.taskDoneCheckOnly = true) (hd : s.life.taskDone = some (some e)) :
    s.srvStep = some (s.fail e) := by
  simp [W.srvStep, hp, hs, W.afterStartup, hck, hd]

/-- **exceeding `startup_timeout`**: the clock cannot pass the deadline while `worker_serve` waits … -/
theorem startup_deadline_not_overrun (rt : Runtime) (cfg : Cfg) (script : List LAct) (cap : Nat) (ops : List Op) (s : W)
    (hr : run (W.init rt cfg script cap) ops = some s) (since : Nat) (hp : s.phase = .waitingStartup since) :
    s.now ≤ since + cfg.startupTimeout ∧ s.g.accepts = 0 ∧ s.g.scopes = 0 ∧ s.listening = false := by
  obtain ⟨hR, _, hcfg, _⟩ := reach_run rt cfg script cap ops s hr
  have := hR.P.wait since hp
  have hn := hR.P.never this.2.1
  exact ⟨by rw [← hcfg]; exact this.2.2.2, hR.P.noAccepts this.2.1, hR.P.noScopes this.2.1, hn.1⟩

/-- … at the deadline, with the event still unset, its only action is to raise `LifespanTimeoutError` … -/
theorem startup_timeout_fires (s : W) (since : Nat) (hp : s.phase = .waitingStartup since) (hs : s.life.startup = false)
    (hd : since + s.cfg.startupTimeout ≤ s.now) : s.srvStep = some (s.fail (.lifespanTimeout .startup)) := by
  simp [W.srvStep, hp, hs, hd]

/-- … and when it has done so nothing was ever listened on, accepted or served -/
theorem timeout_aborts (rt : Runtime) (cfg : Cfg) (script : List LAct) (cap : Nat) (ops : List Op) (s : W)
    (hr : run (W.init rt cfg script cap) ops = some s) (hp : s.phase = .failed (.lifespanTimeout .startup)) :
    s.g.everListening = false ∧ s.g.accepts = 0 ∧ s.g.scopes = 0 ∧ s.conns = [] ∧ s.life.startup = false := by
  obtain ⟨hR, _⟩ := reach_run rt cfg script cap ops s hr
  have he := hR.Z.z hp
  have hn := hR.P.never he
  exact ⟨he, hR.P.noAccepts he, hR.P.noScopes he, hn.2.1, hR.E.just _ hp⟩

/-! ### an application that raises does not support lifespan: serving starts, no `lifespan.shutdown` later -/

/-- the application raised (anything but a lifespan failure) before completing start-up -/
theorem raised_is_unsupported (rt : Runtime) (cfg : Cfg) (script : List LAct) (cap : Nat) (ops : List Op) (s : W)
    (hr : run (W.init rt cfg script cap) ops = some s) (hb : s.life.raisedBeforeComplete = true) :
    s.life.supported = false ∧ s.life.startup = true ∧ s.life.started = true ∧ ∀ e, s.life.taskDone ≠ some (some e) := by
  obtain ⟨hR, _⟩ := reach_run rt cfg script cap ops s hr
  have h1 := hR.L.ok.raisedBC hb
  have hx := hR.L.ok.unsupportedWhy h1.1
  refine ⟨h1.1, (hR.L.ok.exitedEvents hx).1, ?_, h1.2.2.2.2⟩
  by_cases hs : s.life.started = true
  · exact hs
  · have := (hR.L.ok.notStarted (by simpa using hs)).1; simp [hx] at this

/-- from then on `worker_serve`'s next start-up action is to start serving … -/
theorem unsupported_serving_starts (s : W) (hsup : s.life.supported = false) (hst : s.life.started = true)
    (hsu : s.life.startup = true) (hnd : ∀ e, s.life.taskDone ≠ some (some e))
    (hp : s.phase = .booting ∨ ∃ t, s.phase = .waitingStartup t) :
    s.srvStep = some s.enterServing := by
  have hafter : s.afterStartup = s.enterServing := by
    unfold W.afterStartup
    split
    · split
      · rename_i e he; exact absurd he (hnd e)
      · rfl
    · rfl
  rcases hp with hp | ⟨t, hp⟩
  · simp [W.srvStep, hp, hst, Life.put, hsup, hafter]
  · simp [W.srvStep, hp, hsu, hafter]

/-- … and **no `lifespan.shutdown` is ever put once the application is unsupported** (for every continuation) -/
theorem unsupported_continues (s s' : W) (ops : List Op) (hsup : s.life.supported = false) (hr : run s ops = some s') :
    s'.life.supported = false ∧ s'.g.shutdownPuts = s.g.shutdownPuts := by
  refine inv_run (fun x => x.life.supported = false ∧ x.g.shutdownPuts = s.g.shutdownPuts) (fun x o x' hI hs => ?_)
    s s' ops ⟨hsup, rfl⟩ hr
  obtain ⟨h1, h2⟩ := hI
  have hrel := step_rel x x' o hs
  rcases step_cases x x' o hrel with rfl | rfl | ⟨f, -⟩
  · cases hrel with
    | appFail l' e hnt hl => exact ⟨appStep_supported _ _ _ hl h1, h2⟩
    | appOk l' hnt hl => exact ⟨appStep_supported _ _ _ hl h1, h2⟩
  · -- an unsupported lifespan gets no message: the two puts are excluded, every other action keeps the counter
    have key : ∀ y : W, y.life.supported = false → y.g.shutdownPuts = s.g.shutdownPuts → SrvRel y x' →
        x'.life.supported = false ∧ x'.g.shutdownPuts = s.g.shutdownPuts := by
      intro y hy hy2 hr
      cases hr with
      | bootPut _ _ hsp => rw [hy] at hsp; cases hsp
      | shutdownPut _ _ _ hsp => rw [hy] at hsp; cases hsp
      | begin => simp [W.beginShutdown, hy, hy2]
      | _ => exact ⟨hy, hy2⟩
    cases hrel with
    | srv x' hr => exact key x h1 h2 hr
    | graceOver since x' _ _ _ hr => exact key x.cancelAll h1 h2 hr
  · exact ⟨by rw [f.life]; exact h1, by rw [f.shutdownPuts]; exact h2⟩

example : (run (W.init .asyncio cfg0 [.recv, .raise] 10) [.app, .srv, .app, .srv, .connect .h1, .trigger, .srv, .srv]).map
    (fun s => decide (s.phase = .done ∧ s.life.supported = false ∧ s.g.shutdownPuts = 0 ∧ s.life.warnings = 1 ∧
      s.g.accepts = 1)) = some true := by decide

/-! ### `lifespan.shutdown` is sent at most once, only after the handlers have drained or the grace period is over,
and `worker_serve` ends abnormally only for a reason the application gave -/

/-- **at most one put; when it happened no handler was alive, it was not before the trigger, and if a handler had
    to be cancelled it was not before `trigger + graceful_timeout`** -/
theorem shutdown_once_after_drain (rt : Runtime) (cfg : Cfg) (script : List LAct) (cap : Nat) (ops : List Op) (s : W)
    (hr : run (W.init rt cfg script cap) ops = some s) :
    s.g.shutdownPuts ≤ 1 ∧
    (s.g.shutdownPuts = 1 → s.conns = [] ∧ s.terminated = true ∧
      ∃ t p, s.g.triggerTime = some t ∧ s.g.shutdownPutAt = some p ∧ t ≤ p ∧
        (s.hist.cancelled ≠ [] → t + cfg.gracefulTimeout ≤ p) ∧
        (∀ x ∈ s.hist.cancelled, t + cfg.gracefulTimeout ≤ x.2.2)) := by
  obtain ⟨hR, _, hcfg, _⟩ := reach_run rt cfg script cap ops s hr
  refine ⟨hR.P.putsLe.2, ?_⟩
  intro h1
  -- a put has happened: the phase is `lifespanShutdown` or terminal, so no handler is alive
  have hconns : s.conns = [] := by
    cases hp : s.phase with
    | booting => have := (hR.P.early (hR.P.boot hp).2).2; omega
    | waitingStartup t => have := (hR.P.early (hR.P.wait t hp).2.1).2; omega
    | serving => have := hR.P.servNoPut hp; omega
    | closing => have := (hR.P.closing hp).2.2.2.2; omega
    | draining t => have := hR.P.drainNoPut hp; omega
    | lifespanShutdown t => exact hR.P.lsdConns hp
    | done => exact (hR.P.term (by simp [hp, Phase.terminal])).1
    | failed e => exact (hR.P.term (by simp [hp, Phase.terminal])).1
  obtain ⟨y1, y2, y3⟩ := hR.Y.y h1
  obtain ⟨p, hp⟩ := Option.isSome_iff_exists.mp y1
  obtain ⟨t, ht⟩ := Option.isSome_iff_exists.mp y2
  have h3 := hR.T.t3 p hp t ht
  refine ⟨hconns, y3, t, p, ht, hp, h3.1, by rw [← hcfg]; exact h3.2.2, ?_⟩
  intro x hx
  have h2 := hR.T.t2 x hx t ht
  rw [← hcfg]; exact h2.1

/-! ### the listeners are closed before the drain starts (the order of the exit path)

`shutdown_once_after_drain` speaks about `s.conns`, the handlers alive at the put.  That this is *every* connection of
the worker rests on the model closing the listeners in the same atomic action that sets `terminated` (`beginShutdown`):
`gather(*server_tasks)` is a snapshot, a connection accepted while it is awaited would not be waited for.  The order is
re-decided against the source on every run. -/

/-- **the model's exit path is the source's**: the statements of the `finally:` block of asyncio `worker_serve` (and of the
    `finally:` of the bounded wait inside it), in source order, are the model's - `terminated.set()`, the listeners closed,
    THEN the bounded wait for the handlers, then `wait_for_shutdown()`, then the lifespan task cancelled and awaited; on
    trio the listeners run in the nursery that has been cancelled and joined before the `finally:` that sets `terminated` -/
theorem exit_path_order_is_source :
    (Extracted.Guards.asyncioExitOrder = (exitOrder Runtime.asyncio).map ExitStmt.name ∨
     -- (`terminated.set()` and the closing of the listeners are ONE atomic action of the model and neither suspends in the
     --  source: which of the two statements stands first is immaterial)
     Extracted.Guards.asyncioExitOrder =
       [ExitStmt.closeListeners.name, ExitStmt.setTerminated.name] ++ ((exitOrder Runtime.asyncio).drop 2).map ExitStmt.name) ∧
    Extracted.Guards.trioListenersStopBeforeTerminated = true := by
  constructor
  · decide
  · rfl

/-- **no connection joins the drain**: once `terminated` is set the listeners are closed, no `connect` is enabled (of
    any kind of connection), and no connection has been accepted since; so the handlers `lifespan.shutdown` waits for
    (`shutdown_once_after_drain`: none is alive at the put) are all the connections there are -/
theorem listeners_closed_before_drain (rt : Runtime) (cfg : Cfg) (script : List LAct) (cap : Nat) (ops : List Op) (s : W)
    (hr : run (W.init rt cfg script cap) ops = some s) :
    (s.terminated = true → s.listening = false ∧ ∀ k, step s (.connect k) = none) ∧
    s.g.acceptsAfterTerm = 0 ∧
    (s.g.shutdownPuts = 1 → s.conns = [] ∧ s.listening = false) := by
  obtain ⟨hR, _⟩ := reach_run rt cfg script cap ops s hr
  have hl := invP_terminated_notListening s hR.P
  refine ⟨fun ht => ⟨hl ht, fun k => by simp [step, hl ht]⟩, hR.O.o2.1, ?_⟩
  intro h1
  have h := shutdown_once_after_drain rt cfg script cap ops s hr
  exact ⟨(h.2 h1).1, hl (h.2 h1).2.1⟩

/-- the order matters: a trigger with a request in flight, then a client - refused; the put happens only after the request
    in flight has been delivered, with no handler alive -/
example : (run (W.init .asyncio cfg0 [.recv, .sendStartupComplete, .recv] 10)
    [.app, .srv, .app, .srv, .connect .h1, .request 0 (some 5), .trigger, .srv]).map
    (fun s => decide (s.terminated = true ∧ s.listening = false ∧ step s (.connect .h1) = none ∧ s.g.shutdownPuts = 0 ∧ s.conns.length = 1))
    = some true := by decide

/-- **every abnormal end of `worker_serve` is attributable** (see `ErrJustified`): a lifespan failure only if the
    application sent `lifespan.<stage>.failed`, a time-out only if the event was not set, `ClosedResourceError` only on
    runtimes that close the channels behind a leaving application, `CancelledError` only when the application was still
    running at the very end -/
theorem serve_error_justified (rt : Runtime) (cfg : Cfg) (script : List LAct) (cap : Nat) (ops : List Op) (s : W)
    (hr : run (W.init rt cfg script cap) ops = some s) (e : ServeErr) (hp : s.phase = .failed e) : ErrJustified s e :=
  (reach_run rt cfg script cap ops s hr).1.E.just e hp

/-- an application that left the lifespan scope without sending a failure (in particular one that returns early, before
    or after `startup.complete`, like every WSGI application) never makes `worker_serve` fail — on runtimes on which a put
    on the channels of a leaving application does not raise -/
theorem serve_returns_normally_of_flags (rt : Runtime) (cfg : Cfg) (script : List LAct) (cap : Nat) (ops : List Op) (s : W)
    (hch : rt.channelsClosedOnExit = false) (hck : rt.exitCheckpoints = false ∨ rt.lifespanInNursery = true)
    (hr : run (W.init rt cfg script cap) ops = some s) (hx : s.life.exited = true)
    (h1 : s.life.startupFailedSent = false) (h2 : s.life.shutdownFailedSent = false) : ∀ e, s.phase ≠ .failed e := by
  obtain ⟨hR, hrt, _, _⟩ := reach_run rt cfg script cap ops s hr
  intro e hp
  have hj := hR.E.just e hp
  have hev := hR.L.ok.exitedEvents hx
  cases e with
  | lifespanFailure st => cases st <;> simp [ErrJustified, Life.failedSent, h1, h2] at hj
  | lifespanTimeout st => cases st <;> simp [ErrJustified, hev.1, hev.2.1] at hj
  | closedResource => simp [ErrJustified, hrt, hch] at hj
  | cancelled =>
    simp only [ErrJustified] at hj
    rcases hck with hck | hck
    · simp only [Life.exited, hj.2.1, Option.isSome_none, Bool.false_or] at hx
      have := (hR.L.ok.exitingFlag hx).1
      simp [hrt, hck] at this
    · have := hj.1
      simp [hrt, hck] at this

/-- **an application that left the lifespan scope without sending a failure never makes `worker_serve` fail** — both
    worker classes (every WSGI application, every ASGI application that returns from the lifespan scope) -/
theorem serve_returns_normally (rt : Runtime) (hc : Current rt) (cfg : Cfg) (script : List LAct) (cap : Nat) (ops : List Op)
    (s : W) (hr : run (W.init rt cfg script cap) ops = some s) (hx : s.life.exited = true)
    (h1 : s.life.startupFailedSent = false) (h2 : s.life.shutdownFailedSent = false) : ∀ e, s.phase ≠ .failed e :=
  serve_returns_normally_of_flags rt cfg script cap ops s (by rcases hc with rfl | rfl <;> rfl)
    (by rcases hc with rfl | rfl; exact Or.inl rfl; exact Or.inr rfl) hr hx h1 h2

/-- `worker_serve` never ends with `CancelledError` on a runtime that swallows the cancellation of its own lifespan task -/
theorem no_cancelled_error_of_flags (rt : Runtime) (cfg : Cfg) (script : List LAct) (cap : Nat) (ops : List Op) (s : W)
    (hf : rt.endCancelRaises = false) (hr : run (W.init rt cfg script cap) ops = some s) : s.phase ≠ .failed .cancelled := by
  obtain ⟨hR, hrt, _, _⟩ := reach_run rt cfg script cap ops s hr
  intro hp
  have := (hR.E.just _ hp).2.2
  simp [hrt, hf] at this

/-- **an application that is still running when the lifespan shutdown is over does not make `worker_serve` raise
    `CancelledError`** — both worker classes -/
theorem no_cancelled_error (rt : Runtime) (hc : Current rt) (cfg : Cfg) (script : List LAct) (cap : Nat) (ops : List Op) (s : W)
    (hr : run (W.init rt cfg script cap) ops = some s) : s.phase ≠ .failed .cancelled :=
  no_cancelled_error_of_flags rt cfg script cap ops s (by rcases hc with rfl | rfl <;> rfl) hr

/-- the F17 script: `recv; startup.complete; return` -/
def f17Script : List LAct := [.recv, .sendStartupComplete, .ret]
def f17Ops : List Op := [.app, .srv, .app, .app, .srv, .trigger, .srv, .srv]

/-- history (F17, fixed by fa7ea28): before the fix trio's put on the channel closed behind the leaving application raised
    `ClosedResourceError`, at shutdown … -/
theorem f17_run_before_fix :
    (run (W.init .trioBeforeFixes cfg0 f17Script 10) f17Ops).map (fun s => decide
      (s.phase = .failed .closedResource ∧ s.life.exited = true ∧ s.life.completeSeen = true ∧
       s.life.startupFailedSent = false ∧ s.life.shutdownFailedSent = false)) = some true := by decide

/-- … and already at start-up when the application returns before `lifespan.startup` is put (every WSGI application) -/
theorem f17_run_wsgi_before_fix :
    (run (W.init .trioBeforeFixes cfg0 [.ret] 10) [.app, .srv]).map (fun s => (s.phase, s.g.everListening)) =
      some (.failed .closedResource, false) := by decide

/-- history: the full statement was false for `Runtime.trioBeforeFixes` — the `channelsClosedOnExit` hypothesis of
    `serve_returns_normally_of_flags` is needed -/
theorem serve_returns_normally_failed_before_fix :
    ¬ (∀ (cfg : Cfg) (script : List LAct) (cap : Nat) (ops : List Op) (s : W),
        run (W.init .trioBeforeFixes cfg script cap) ops = some s → s.life.exited = true → s.life.startupFailedSent = false →
        s.life.shutdownFailedSent = false → ∀ e, s.phase ≠ .failed e) := by
  intro h
  obtain ⟨s, hr, hw⟩ := Option.map_eq_some_iff.mp f17_run_before_fix
  obtain ⟨h1, h2, _, h4, h5⟩ := of_decide_eq_true hw
  exact h _ _ _ _ s hr h2 h4 h5 _ h1

-- the same scripts on the code as it is now: normal return after one `lifespan.shutdown` put (into a queue nobody reads) on
-- both workers; a WSGI-like application (`return` at once) is served on trio
example : (run (W.init .trio cfg0 f17Script 10) (f17Ops ++ [.srv])).map
    (fun s => (s.phase, s.g.shutdownPuts)) = some (.done, 1) := by decide
example : (run (W.init .trio cfg0 [.ret] 10) [.app, .srv, .srv, .app, .connect .h1]).map
    (fun s => (s.phase, s.g.accepts)) = some (.serving, 1) := by decide
example : (run (W.init .asyncio cfg0 f17Script 10) [.app, .srv, .app, .srv, .trigger, .srv, .srv, .srv]).map
    (fun s => (s.phase, s.g.shutdownPuts)) = some (.done, 1) := by decide

/-- history (F29, fixed by 9c9a997): before the fix an application still awaiting after `lifespan.shutdown.complete` made
    `await lifespan_task` raise `CancelledError` out of asyncio's `worker_serve` -/
theorem noreturn_after_shutdown_cancelled_before_fix :
    (run (W.init .asyncioBeforeFixes cfg0 [.recv, .sendStartupComplete, .recv, .sendShutdownComplete, .hang] 10)
      [.app, .srv, .app, .srv, .trigger, .srv, .srv, .srv, .app, .srv]).map (fun s => s.phase) =
      some (.failed .cancelled) := by decide

-- now: normal return
example : (run (W.init .asyncio cfg0 [.recv, .sendStartupComplete, .recv, .sendShutdownComplete, .hang] 10)
    [.app, .srv, .app, .srv, .trigger, .srv, .srv, .app, .srv]).map (fun s => s.phase) = some .done := by decide

/-! ### each connection's scope carries its own copy of the lifespan state -/

/-- **a write through one connection's `scope["state"]` changes neither the lifespan state, nor the serve-time
    snapshot, nor any other connection's state** -/
theorem state_isolated (rt : Runtime) (cfg : Cfg) (script : List LAct) (cap : Nat) (ops : List Op) (s s' : W)
    (hr : run (W.init rt cfg script cap) ops = some s) (c : Conn) (hc : c ∈ s.conns) (k v : Nat)
    (hs : step s (.connWrite c.id k v) = some s') :
    s'.mem.heap 0 = s.mem.heap 0 ∧ s'.mem.heap c.ref = kvSet (s.mem.heap c.ref) k v ∧
    (∀ r, s.mem.serveRef = some r → s'.mem.heap r = s.mem.heap r) ∧
    (∀ c2 ∈ s.conns, c2.id ≠ c.id → s'.mem.heap c2.ref = s.mem.heap c2.ref) ∧ s'.conns = s.conns := by
  obtain ⟨hR, _⟩ := reach_run rt cfg script cap ops s hr
  simp only [step, findConn_of_mem s hR.S c hc, Option.some.injEq] at hs
  subst hs
  have h3 := hR.S.s3 c hc
  refine ⟨?_, by simp, ?_, ?_, rfl⟩
  · have : (0 : Nat) ≠ c.ref := by omega
    simp [this]
  · intro r hr'
    have : r ≠ c.ref := by intro h; exact h3.2.2 (by rw [hr', h])
    simp [this]
  · intro c2 hc2 hne
    have : c2.ref ≠ c.ref := fun h => hne (congrArg Conn.id (nodup_map_inj hR.S.s4 hc2 hc h))
    simp [this]

/-- a write of the lifespan application to its own state reaches no existing connection -/
theorem lifespan_write_isolated (rt : Runtime) (cfg : Cfg) (script : List LAct) (cap : Nat) (ops : List Op) (s s' : W)
    (hr : run (W.init rt cfg script cap) ops = some s) (k v : Nat) (hs : step s (.lifeWrite k v) = some s') :
    ∀ c ∈ s'.conns, s'.mem.heap c.ref = s.mem.heap c.ref := by
  obtain ⟨hR, _⟩ := reach_run rt cfg script cap ops s hr
  simp only [step, Option.some.injEq] at hs
  subst hs
  intro c hc
  have := (hR.S.s3 c hc).1
  have h0 : c.ref ≠ 0 := by omega
  simp [h0]

/-- **a new connection starts from a copy**: of the live lifespan state (asyncio), or of the copy taken when serving
    started (trio); every existing cell is left alone -/
theorem state_copied_at_connect (rt : Runtime) (cfg : Cfg) (script : List LAct) (cap : Nat) (ops : List Op) (s s' : W)
    (hr : run (W.init rt cfg script cap) ops = some s) (k : Kind) (hs : step s (.connect k) = some s') :
    s.newConn k ∈ s'.conns ∧ (s.newConn k).id = s.nextId ∧ (s.newConn k).ref = s.mem.nextRef ∧
      s'.mem.heap (s.newConn k).ref = s.mem.heap s.stateSource ∧
      (∀ r, r < s.mem.nextRef → s'.mem.heap r = s.mem.heap r) ∧
      (rt.stateCopiedAtServe = false → s.stateSource = 0) := by
  obtain ⟨hR, hrt, _, _⟩ := reach_run rt cfg script cap ops s hr
  have hsrc : rt.stateCopiedAtServe = false → s.stateSource = 0 := by
    intro h
    have := hR.S.s7 (by rw [hrt]; exact h)
    simp [W.stateSource, this]
  simp only [step] at hs
  split at hs
  · simp only [Option.some.injEq] at hs
    subst hs
    have key : ∀ r, r < s.mem.nextRef → (s.accept k).mem.heap r = s.mem.heap r := by
      intro r hr'
      have : r ≠ s.mem.nextRef := by omega
      simp [W.accept, W.newConn, this]
    have hcopy : (s.accept k).mem.heap (s.newConn k).ref = s.mem.heap s.stateSource := by
      simp [W.accept, W.newConn]
    split
    · exact ⟨by simp [W.newScope, W.markRequest, W.accept, W.newConn], rfl, rfl, hcopy, key, hsrc⟩
    · exact ⟨by simp [W.accept, W.newConn], rfl, rfl, hcopy, key, hsrc⟩
  · simp at hs

-- non-vacuity: two connections, each writes key 7; the lifespan state keeps its own value
example : (run (W.init .asyncio cfg0 [.recv, .sendStartupComplete, .recv] 10)
    [.lifeWrite 7 1, .app, .srv, .app, .srv, .connect .h1, .connect .h1, .connWrite 0 7 10, .connWrite 1 7 11]).map
    (fun s => (s.mem.heap 0, s.conns.map (fun c => s.mem.heap c.ref))) =
    some ([(7, 1)], [[(7, 10)], [(7, 11)]]) := by decide +kernel
-- trio: a late write of the lifespan application is not seen by later connections (copy taken when serving started)
example : (run (W.init .trio cfg0 [.recv, .sendStartupComplete, .recv] 10)
    [.lifeWrite 7 1, .app, .srv, .app, .srv, .lifeWrite 8 2, .connect .h1]).map
    (fun s => (s.mem.heap 0, s.conns.map (fun c => s.mem.heap c.ref))) =
    some ([(8, 2), (7, 1)], [[(7, 1)]]) := by decide +kernel
example : (run (W.init .asyncio cfg0 [.recv, .sendStartupComplete, .recv] 10)
    [.lifeWrite 7 1, .app, .srv, .app, .srv, .lifeWrite 8 2, .connect .h1]).map
    (fun s => (s.mem.heap 0, s.conns.map (fun c => s.mem.heap c.ref))) =
    some ([(8, 2), (7, 1)], [[(8, 2), (7, 1)]]) := by decide +kernel

/-! ### what escapes the application is a tree of exceptions

An application that runs its lifespan inside task groups / nurseries (anyio, Starlette) does not raise a bare
`LifespanFailureError` when it sends `lifespan.startup.failed`: the exception leaves the application wrapped in one
`ExceptionGroup` per task group, possibly next to other exceptions.  `HC/Worker/Escape.lean` models the `except` chain of
`handle_lifespan` as a function on such trees, parameterised by what the extractor reads off both workers
(`HC/Extracted/LifespanSites.lean`).  The clauses below are what the lifespan model (whose `AppExc` is the *verdict* of that
chain) relies on. -/

open HC.Extracted.LifespanSites in
/-- the `except` chain the lifespan model assumes: `LifespanFailureError` and the cancellation class are re-raised as they
    are; a group is searched **through every level** (`error.subgroup(...)`) for the same two classes and what is found is
    re-raised; anything else makes the application unsupported -/
def expectedEscapeHandler : EscapeHandler :=
  { reraise := [.lifespanFailure, .cancelled], caught := [.group, .exception],
    search := .subgroup [.lifespanFailure, .cancelled], marksUnsupported := true }

open HC.Extracted.LifespanSites in
/-- **`handle_lifespan` of both workers is that chain** (decided on the extracted source shape) -/
theorem escape_handler_searches_every_level :
    asyncioEscapeHandler = expectedEscapeHandler ∧ trioEscapeHandler = expectedEscapeHandler := by decide

open HC.Extracted.LifespanSites in
/-- the handlers of the two worker classes as the code is now -/
def CurrentHandler (h : EscapeHandler) : Prop := h = asyncioEscapeHandler ∨ h = trioEscapeHandler

open HC.Extracted.LifespanSites in
theorem currentHandler_eq (h : EscapeHandler) (hc : CurrentHandler h) : h = expectedEscapeHandler := by
  rcases hc with rfl | rfl
  · exact escape_handler_searches_every_level.1
  · exact escape_handler_searches_every_level.2

private theorem isa_fc (e : Exc) : e.isaAny [.lifespanFailure, .cancelled] = true ↔ e ≠ .other := by
  cases e <;> simp [Exc.isaAny, Exc.isa]

/-- the chain on any tree: a tree without failures and cancellations makes the application unsupported; otherwise a tree
    with exactly those leaves is re-raised -/
private theorem handle_expected (t : ExcTree) :
    (t.leaves.filter (fun e => e.isaAny [.lifespanFailure, .cancelled]) = [] ∧ handle expectedEscapeHandler t = .unsupported) ∨
    ∃ t', handle expectedEscapeHandler t = .reraise t' ∧
      t'.leaves = t.leaves.filter (fun e => e.isaAny [.lifespanFailure, .cancelled]) ∧ t'.leaves ≠ [] := by
  cases t with
  | leaf e => cases e <;> simp [handle, expectedEscapeHandler, caughtVerdict, Exc.isaAny, Exc.isa, ExcTree.leaves]
  | group ts =>
    have spec := ExcTree.subgroup_spec [.lifespanFailure, .cancelled] (by decide) (.group ts)
    cases hs : (ExcTree.group ts).subgroup [.lifespanFailure, .cancelled] with
    | none => exact .inl ⟨spec.2.mp hs, by simp [handle, expectedEscapeHandler, caughtVerdict, hs]⟩
    | some t' =>
      refine .inr ⟨t', by simp [handle, expectedEscapeHandler, caughtVerdict, hs], spec.1 t' hs, fun h0 => ?_⟩
      have := spec.2.mpr (spec.1 t' hs ▸ h0)
      rw [hs] at this; cases this

/-- a failure or cancellation among the leaves is among those of the tree that is re-raised -/
private theorem handle_keeps (t : ExcTree) (e : Exc) (he : e ≠ .other) (hl : e ∈ t.leaves) :
    ∃ t', handle expectedEscapeHandler t = .reraise t' ∧ e ∈ t'.leaves ∧ ∀ x ∈ t'.leaves, x ∈ t.leaves ∧ x ≠ .other := by
  have hmem : e ∈ t.leaves.filter (fun e => e.isaAny [.lifespanFailure, .cancelled]) :=
    List.mem_filter.mpr ⟨hl, (isa_fc e).mpr he⟩
  rcases handle_expected t with ⟨h0, -⟩ | ⟨t', hv, hlv, -⟩
  · rw [h0] at hmem; cases hmem
  · refine ⟨t', hv, hlv ▸ hmem, fun x hx => ?_⟩
    have hx' : x ∈ t.leaves.filter (fun e => e.isaAny [.lifespanFailure, .cancelled]) := hlv ▸ hx
    exact ⟨(List.mem_filter.mp hx').1, (isa_fc x).mp (List.mem_filter.mp hx').2⟩

/-- **any tree that contains a `LifespanFailureError` - at whatever depth, next to whatever else - is re-raised**: the
    lifespan task ends with a tree that still contains that failure and nothing but failures and cancellations, i.e. for the
    lifespan model the application *failed* (it is never filed under "does not support lifespan") -/
theorem failure_leaf_aborts (h : HC.Extracted.LifespanSites.EscapeHandler) (hc : CurrentHandler h) (t : ExcTree) (st : Stage)
    (hl : Exc.failure st ∈ t.leaves) :
    ∃ t', handle h t = .reraise t' ∧ Exc.failure st ∈ t'.leaves ∧ (∀ x ∈ t'.leaves, x ≠ .other) ∧
      ∃ st', (handle h t).appExc = some (.failure st') := by
  rw [currentHandler_eq h hc]
  obtain ⟨t', hv, hm, hall⟩ := handle_keeps t (.failure st) nofun hl
  obtain ⟨st', hst'⟩ := firstFailure_some_of_mem st t'.leaves hm
  exact ⟨t', hv, hm, fun x hx => (hall x hx).2, st', by simp [hv, Verdict.appExc, hst']⟩

/-- **a tree of other exceptions only (no failure, no cancellation) makes the application unsupported** - the server goes on
    without lifespan, as for a bare exception -/
theorem other_only_unsupported (h : HC.Extracted.LifespanSites.EscapeHandler) (hc : CurrentHandler h) (t : ExcTree)
    (hl : ∀ x ∈ t.leaves, x = .other) : handle h t = .unsupported := by
  rw [currentHandler_eq h hc]
  rcases handle_expected t with ⟨-, hv⟩ | ⟨t', -, hlv, hne⟩
  · exact hv
  · refine absurd ?_ hne
    rw [hlv, List.filter_eq_nil_iff]
    intro x hx
    rw [hl x hx]
    decide

/-- a cancellation inside a group (a cancelled application that sits in nurseries) is re-raised, never logged as an error of
    the application -/
theorem cancelled_leaf_reraised (h : HC.Extracted.LifespanSites.EscapeHandler) (hc : CurrentHandler h) (t : ExcTree)
    (hl : Exc.cancelled ∈ t.leaves) : ∃ t', handle h t = .reraise t' ∧ Exc.cancelled ∈ t'.leaves := by
  rw [currentHandler_eq h hc]
  obtain ⟨t', hv, hm, -⟩ := handle_keeps t .cancelled nofun hl
  exact ⟨t', hv, hm⟩

/-- **a script behaves under any nest of task groups as it does bare**: for every wrap that lets the script's own exception
    through (`hasOwn`; the other members of the groups are other exceptions), `translate` - the script as the server
    experiences it - is the script itself.  Hence every theorem of this file about scripts (`failed_or_timeout_aborts`,
    `startup_before_serving`, `raised_is_unsupported` …) holds for the script run inside task groups / nurseries of any depth. -/
theorem wrapped_script_is_script (h : HC.Extracted.LifespanSites.EscapeHandler) (hc : CurrentHandler h) (w : Wrap)
    (hw : w.hasOwn = true) (script : List LAct) : translate h w script = some script := by
  have key : ∀ a : LAct, translateAct h w a = some a := by
    intro a
    unfold translateAct
    cases hr : a.raises with
    | none => rfl
    | some e =>
      have hfl := Wrap.fill_leaves e w
      cases e with
      | failure st =>
        -- what is re-raised is made of leaves of the filled wrap other than `other`: copies of the script's own failure
        rw [currentHandler_eq h hc]
        obtain ⟨t', hv, hm, hall⟩ := handle_keeps (w.fill (.failure st)) (.failure st) nofun (hfl.2 hw)
        have hff := firstFailure_of_all st t'.leaves (List.ne_nil_of_mem hm)
          (fun x hx => (hfl.1 x (hall x hx).1).resolve_right (hall x hx).2)
        simp [hv, Verdict.appExc, hff]
      | cancelled => cases a <;> simp [LAct.raises] at hr
      | other =>
        have hv := other_only_unsupported h hc (w.fill .other) (fun x hx => (hfl.1 x hx).elim id id)
        simp [hv, Verdict.appExc]
  unfold translate
  induction script with
  | nil => rfl
  | cons a rest ih => simp [List.mapM_cons, key a, ih]

open HC.Extracted.LifespanSites in
/-- the hypothesis is needed: a handler that only scans the *direct* members of the group (`error.exceptions`) does not find a
    failure that sits one level deeper - `lifespan.startup.failed` sent from inside two task groups would make the application
    "unsupported" and the server would serve -/
theorem direct_scan_misses_nested :
    (handle { expectedEscapeHandler with search := .directMembers [.lifespanFailure, .cancelled] }
      (.group [.group [.leaf (.failure .startup)]])).isUnsupported = true ∧
    translate { expectedEscapeHandler with search := .directMembers [.lifespanFailure, .cancelled] } (Wrap.nest 2)
      [.recv, .sendStartupFailed] = some [.recv, .sendUnknown] := by decide

-- non-vacuity: depth 1, 2, 3 and mixed trees on the handlers as they are
example : (handle HC.Extracted.LifespanSites.asyncioEscapeHandler ((Wrap.nest 3).fill (.failure .startup))).reraised =
    some [.failure .startup] := by decide
example : (handle HC.Extracted.LifespanSites.trioEscapeHandler
    (.group [.leaf .other, .group [.leaf .other, .group [.leaf (.failure .startup)], .leaf .cancelled]])).reraised =
    some [.failure .startup, .cancelled] := by decide
example : (handle HC.Extracted.LifespanSites.trioEscapeHandler (.group [.leaf .other, .group [.leaf .other]])).isUnsupported = true := by
  decide
example : (Wrap.group [.sibling, .group [.own, .sibling]]).hasOwn = true := by decide

/-! ### the per-connection state is an unconditional copy -/

open HC.Extracted.LifespanSites in
/-- **every connection gets `ConnectionState(self.state.copy())` - a fresh dict, whatever the state holds (also when it is
    empty)** on both workers; the dict copied is the live lifespan state on asyncio and the copy taken when serving started on
    trio (`Runtime.stateCopiedAtServe`).  This is what `W.accept` (a fresh heap cell per connection) models; decided on the
    argument expressions the extractor reads from `TCPServer.run` and `worker_serve` of both workers. -/
theorem conn_state_unconditional_copy :
    asyncioConnStateArg = .copy ∧ trioConnStateArg = .copy ∧
    (asyncioServeStateArg = .shared ∧ Runtime.asyncio.stateCopiedAtServe = false) ∧
    (trioServeStateArg = .copy ∧ Runtime.trio.stateCopiedAtServe = true) := by decide

-- an EMPTY lifespan state: both connections start empty, each sees only its own write, the lifespan state stays empty
example : (run (W.init .asyncio cfg0 [.recv, .sendStartupComplete, .recv] 10)
    [.app, .srv, .app, .srv, .connect .h1, .connWrite 0 7 10, .connect .h1, .connWrite 1 7 11]).map
    (fun s => (s.mem.heap 0, s.conns.map (fun c => s.mem.heap c.ref))) =
    some ([], [[(7, 10)], [(7, 11)]]) := by decide +kernel
example : (run (W.init .trio cfg0 [.raise] 10)
    [.app, .app, .srv, .connect .h1, .connWrite 0 7 10, .connect .h1]).map
    (fun s => (s.mem.heap 0, s.conns.map (fun c => s.mem.heap c.ref))) =
    some ([], [[(7, 10)], []]) := by decide

end HC.Props.C14
