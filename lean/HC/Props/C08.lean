import HC.Props.C09
import HC.Proto.EventRace
/-!
# C08 — send backpressure is applied, bounded, and always released (HTTP/2 send path)

Over the same model as C09 (`HC/Proto/H2Send.lean`), for every operation sequence:

* **bounded** — the bytes held for a stream stay below `HIGH + 2·c` where `c` bounds a single application write,
  whatever the number of writes (`buffer_bounded`); the release rule used is the one *extracted* from
  `StreamBuffer.pop` (`Guards.bufferPopRelease`) and the wait rule the one extracted from `push`
  (`Guards.bufferPushCmp`), so a change to either re-opens these proofs;
* **applied** — a write that takes the buffer to the high-water mark does not return before the send task has popped
  (`push_waits`), and a pop at an exhausted window does not release it (`zero_window_no_release`);
* **released** — at quiescence a sender is still waiting only if its stream has bytes left and no credit
  (`waiting_means_no_credit`, `credit_releases`); a reset (by the client, or by the server abandoning the response)
  releases the stream's sender at once (`reset_releases`); after `handle(Closed)` every waiting sender's wake-up is
  enabled and no new wait can last (`close_releases`);
* **isolated** — whether an op on another stream is enabled does not depend on a stream's waiting sender
  (`waiting_sender_isolated`).
-/
namespace HC.Props.C08
open HC HC.Proto.H2Send HC.Extracted HC.Props.C09

/-- every application write is at most `c` bytes -/
def sizeOk (c : Nat) : Op → Prop
  | .push _ n => n ≤ c
  | _ => True

theorem HIGH_pos : 0 < HIGH := by decide
theorem LOW_pos : 0 < Consts.h2_BUFFER_LOW_WATER := by decide

/-- the bound on a stream's buffer, by where its sender is.  `_paused` can be set from an earlier pop, so: an idle sender with
    the event set has `buf < HIGH` (the pop that set it released below the mark, or the buffer was closed); its next write
    lands below `HIGH + c`, and if it waits it waits with the event set (clause 4); `pushWake` then returns below `HIGH + c`
    (clause 2), and the write after that is below `HIGH + 2c` (clause 3) and cannot return before a pop. -/
def Buf (c : Nat) (s : St) : Prop := ∀ i,
  ((s.str i).pausedEv = true → (s.str i).pusher ≠ .inPush → (s.str i).buf < HIGH) ∧
  ((s.str i).pusher ≠ .inPush → (s.str i).buf < HIGH + c) ∧
  ((s.str i).pusher = .inPush → (s.str i).buf < HIGH + 2 * c) ∧
  ((s.str i).pusher = .inPush → (s.str i).pausedEv = true → (s.str i).buf < HIGH + c)

theorem buf_step (c : Nat) (s s' : St) (o : Op) (h : Buf c s) (hp : sizeOk c o) (hs : step s o = some s') : Buf c s' := by
  intro j
  have hj := h j
  have hH := HIGH_pos
  have hr := step_at hs j
  clear hs h
  rcases hr with ⟨_, _, hl, rfl⟩ | ⟨i, _, _, hji, hl, rfl⟩ | ⟨_, _, hg, rfl⟩
  · simp only [upd_same]
    cases hl <;> first | exact hj | (simp only [sizeOk] at hp; str_finish) | str_finish
  · simp only [upd_other _ _ _ _ hji]; exact hj
  · cases hg <;> first | exact hj | str_finish

/-- a waiting sender whose event is clear still has a buffer the send task will come back to; a completed buffer never
    has a sender parked in `push` with a clear event -/
def Wait (s : St) : Prop := ∀ i,
  ((s.str i).pusher = .inPush → (s.str i).pausedEv = false →
      (s.str i).hasBuf = true ∧ (s.str i).complete = false ∧ ((s.str i).buf > 0 ∨ (s.str i).blocked = false)) ∧
  ((s.str i).pusher = .inDrain → (s.str i).emptyEv = false →
      (s.str i).hasBuf = true ∧ ((s.str i).buf > 0 ∨ (s.str i).blocked = false ∨ s.task = .ending i))

theorem wait_step (s s' : St) (o : Op) (h : Wait s) (ht : Tree s) (hs : step s o = some s') : Wait s' := by
  intro j
  have hj := h j
  have htj := ht.1 j
  have hH := HIGH_pos
  have hL := LOW_pos
  have hr := step_at hs j
  clear hs h ht
  rcases hr with ⟨_, _, hl, rfl⟩ | ⟨i, _, _, hji, hl, rfl⟩ | ⟨_, _, hg, rfl⟩
  · -- a `pick` that leaves the stream blocked with `buf = 0` sets the event the sender waits on (`bufferPopRelease 0 0`, as
    -- `0 < LOW`; `bufferPopEmpty 0 false`); `close()` sets both events
    simp only [upd_same]
    cases hl <;> first | exact hj | str_finish
  · simp only [upd_other _ _ _ _ hji]
    have ht := hl.frame.2.2.1 j hji
    clear hl
    grind
  · -- `prio` blocks only a non-member, which has no buffer (`Tree`)
    cases hg <;> first | exact hj | str_finish

/-- after `handle(Closed)`: every buffer is complete with both events' waiters released, and stays so -/
def Closed (s : St) : Prop := s.closed = true → ∀ i,
  ((s.str i).hasBuf = true → (s.str i).complete = true ∧ (s.str i).emptyEv = true ∧ (s.str i).bufClosed = true) ∧
  ((s.str i).pusher = .inPush → (s.str i).pausedEv = true) ∧
  ((s.str i).pusher = .inDrain → (s.str i).emptyEv = true)

theorem closed_step (s s' : St) (o : Op) (h : Closed s) (hw : Wait s) (hs : step s o = some s') : Closed s' := by
  unfold Closed at *
  intro hc j
  have hwj := hw j
  have hr := step_at hs j
  clear hs hw
  rcases hr with ⟨_, _, hl, rfl⟩ | ⟨i, _, _, hji, hl, rfl⟩ | ⟨_, _, hg, rfl⟩
  · -- a step that serves one stream neither closes nor reopens the connection
    have hj := h (hl.frame.1 ▸ hc) j
    clear h
    simp only [upd_same]
    cases hl <;> first | exact hj | str_finish
  · simp only [upd_other _ _ _ _ hji]
    exact h (hl.frame.1 ▸ hc) j
  · -- `handle(Closed)` closes every buffer, which sets both events; by `Wait` a sender whose event is clear has a buffer
    cases hg <;> first | exact h hc j | (have hj := fun a => h a j; clear h; str_finish)

/-- a reset stream's buffer (unless its application is inside the reset itself) is closed: complete, `_is_empty` set -/
def RstC (s : St) : Prop := ∀ i, (s.str i).libClosed = true → (s.str i).hasBuf = true → (s.str i).pusher ≠ .inAbandon →
  (s.str i).complete = true ∧ (s.str i).emptyEv = true ∧ (s.str i).bufClosed = true

theorem rstC_step (s s' : St) (o : Op) (h : RstC s) (hs : step s o = some s') : RstC s' := by
  intro j
  have hj := h j
  have hr := step_at hs j
  clear hs h
  rcases hr with ⟨_, _, hl, rfl⟩ | ⟨i, _, _, hji, hl, rfl⟩ | ⟨_, _, hg, rfl⟩
  · simp only [upd_same]
    cases hl <;> first | exact hj | str_finish
  · simp only [upd_other _ _ _ _ hji]; exact hj
  · cases hg <;> first | exact hj | str_finish

/-- a sender waiting on a reset stream has its event set -/
def Rel (s : St) : Prop := ∀ i, (s.str i).libClosed = true →
  ((s.str i).pusher = .inPush → (s.str i).pausedEv = true) ∧ ((s.str i).pusher = .inDrain → (s.str i).emptyEv = true)

theorem rel_step (s s' : St) (o : Op) (h : Rel s) (hw : Wait s) (hrc : RstC s) (hs : step s o = some s') : Rel s' := by
  intro j
  have hj := h j
  have hwj := hw j
  have hrj := hrc j
  have hr := step_at hs j
  clear hs h hw hrc
  rcases hr with ⟨_, _, hl, rfl⟩ | ⟨i, _, _, hji, hl, rfl⟩ | ⟨_, _, hg, rfl⟩
  · -- `rst` closes the buffer, which sets both events; by `Wait` a sender whose event is clear has a buffer
    simp only [upd_same]
    cases hl <;> first | exact hj | str_finish
  · simp only [upd_other _ _ _ _ hji]; exact hj
  · cases hg <;> first | exact hj | str_finish

structure Inv (c : Nat) (s : St) : Prop where
  base : C09.Inv s
  buf : Buf c s
  wait : Wait s
  closed : Closed s
  rstc : RstC s
  rel : Rel s

def opOk8 (c : Nat) (s : St) (o : Op) : Prop := opOk s o ∧ sizeOk c o

theorem inv_init (c : Nat) (cw : Int) (mf : Nat) (h : 0 < mf) : Inv c (init cw mf) := by
  refine ⟨C09.inv_init cw mf h, ?_, ?_, ?_, ?_, ?_⟩ <;>
    simp [init, Buf, Wait, Closed, RstC, Rel, HIGH_pos] <;> (have := HIGH_pos; omega)

theorem inv_step (c : Nat) (s s' : St) (o : Op) (h : Inv c s) (hp : opOk8 c s o) (hs : step s o = some s') : Inv c s' :=
  { base := C09.inv_step s s' o h.base hp.1 hs
    buf := buf_step c s s' o h.buf hp.2 hs
    wait := wait_step s s' o h.wait h.base.tree hs
    closed := closed_step s s' o h.closed h.wait hs
    rstc := rstC_step s s' o h.rstc hs
    rel := rel_step s s' o h.rel h.wait h.rstc hs }

theorem inv_run (c : Nat) (ops : List Op) : ∀ (s s' : St), Inv c s → allQ (opOk8 c) s ops → runOk s ops = some s' → Inv c s' :=
  run_invariant (Inv c) (opOk8 c) (inv_step c) ops

/-- the recovery from a priority tree that schedules a stream it does not know (`XOp.rebuild`, see `HC.Proto.H2Send`)
    keeps every invariant: the fresh tree holds every buffered stream *unblocked* (extracted loop body), so a waiting sender
    still has a buffer the send task will come back to -/
theorem inv_rebuild (c : Nat) (s s' : St) (i : Nat) (h : Inv c s) (hs : rebuild s i = some s') : Inv c s' := by
  have hb := C09.inv_rebuild s s' i h.base hs
  obtain ⟨ht, hc, _, _, he⟩ := rebuild_spec s s' i hs
  subst he
  exact {
    base := hb
    buf := fun j => by simpa [rebuildStr] using h.buf j
    -- a buffered stream is not blocked after the recovery
    wait := fun j => by
      obtain ⟨w1, w2⟩ := h.wait j
      refine ⟨fun hp he => ?_, fun hp he => ?_⟩
      · have := w1 (by simpa [rebuildStr] using hp) (by simpa [rebuildStr] using he)
        simp [rebuildStr, Atomic.h2RebuildBlocks, this.1, this.2.1]
      · have := w2 (by simpa [rebuildStr] using hp) (by simpa [rebuildStr] using he)
        simp [rebuildStr, Atomic.h2RebuildBlocks, this.1]
    closed := fun hcl => by simp [hc] at hcl
    rstc := fun j => by simpa [rebuildStr] using h.rstc j
    rel := fun j => by simpa [rebuildStr] using h.rel j }

def xopOk8 (c : Nat) (s : St) : XOp → Prop
  | .op o => opOk8 c s o
  | .rebuild _ => True

theorem inv_xstep (c : Nat) (s s' : St) (o : XOp) (h : Inv c s) (hp : xopOk8 c s o) (hs : xstep s o = some s') : Inv c s' := by
  cases o with
  | op o => exact inv_step c s s' o h hp hs
  | rebuild i => exact inv_rebuild c s s' i h hs

/-- the states of all runs in which no single application write exceeds `c` bytes - runs in which the priority library
    may at any time hand the send task a stream the tree does not know -/
def Reachable8 (c : Nat) (s : St) : Prop := ∃ cw mf ops, 0 < mf ∧ xallQ (xopOk8 c) (init cw mf) ops ∧ xrunOk (init cw mf) ops = some s

theorem reachable8_inv (c : Nat) (s : St) (h : Reachable8 c s) : Inv c s := by
  obtain ⟨cw, mf, ops, hmf, hok, hr⟩ := h
  exact xrun_invariant (Inv c) (xopOk8 c) (inv_xstep c) ops _ s (inv_init c cw mf hmf) hok hr

/-- in particular the states of the runs of the send path proper -/
theorem reachable8_of_run (c : Nat) (cw : Int) (mf : Nat) (ops : List Op) (s : St) (hmf : 0 < mf)
    (hok : allQ (opOk8 c) (init cw mf) ops) (hr : runOk (init cw mf) ops = some s) : Reachable8 c s :=
  ⟨cw, mf, ops.map .op, hmf, xallQ_lift (opOk8 c) (xopOk8 c) (fun _ _ h => h) ops _ hok, by rw [xrunOk_lift]; exact hr⟩

/-- **released after the recovery**: right after the tree was rebuilt, every stream that has a buffer - in particular one with a
    waiting sender, buffered data and credit - is a member of the tree and not blocked: the send task's next `pick` of it is
    enabled, it is not left behind -/
theorem rebuild_keeps_waiting_streams_schedulable (s s' : St) (i j : Nat) (hs : rebuild s i = some s')
    (hb : (s.str j).hasBuf = true) :
    (s'.str j).inTree = true ∧ (s'.str j).blocked = false ∧ (s'.str j).pusher = (s.str j).pusher ∧ (s'.str j).buf = (s.str j).buf ∧
    (step s' (.pick j)).isSome = true := by
  obtain ⟨ht, hc, _, _, he⟩ := rebuild_spec s s' i hs
  subst he
  have h1 : (rebuildStr (s.str j)).inTree = true := by simp [rebuildStr, hb]
  have h2 : (rebuildStr (s.str j)).blocked = false := by simp [rebuildStr, Atomic.h2RebuildBlocks]
  exact ⟨h1, h2, by simp [rebuildStr], by simp [rebuildStr], (send_task_total _ j).1 ht hc h1 h2⟩

/-- **bounded**: however many writes the application makes and however large the response, what the server holds for
    a stream is below `HIGH + 2·c` (`c` = the largest single write) — in every reachable state -/
theorem buffer_bounded (c : Nat) (s : St) (hr : Reachable8 c s) (i : Nat) : (s.str i).buf < HIGH + 2 * c := by
  have hI := (reachable8_inv c s hr).buf i
  cases hp : (s.str i).pusher
  · have := hI.2.1 (by simp [hp]); omega
  · exact hI.2.2.1 hp
  · have := hI.2.1 (by simp [hp]); omega
  · have := hI.2.1 (by simp [hp]); omega

/-- **applied**: a write that takes the buffer to the high-water mark or above does not return until the send task has
    popped (the extracted `push` comparison) -/
theorem push_waits (s s' : St) (i n : Nat) (hs : step s (.push i n) = some s')
    (hb : (s.str i).hasBuf = true) (ht : (s.str i).inTree = true) (hc : (s.str i).complete = false)
    (hh : HIGH ≤ (s.str i).buf + n) : (s'.str i).pusher = .inPush := by
  step_cases hs <;> simp_all [upd, Guards.bufferPushCmp, Guards.Cmp.eval] <;> omega

/-- **no release at an exhausted window**: a pop that takes nothing from a buffer still at or above the high-water mark
    (the window is zero) leaves `_paused` as it was — the sender keeps waiting (the extracted `pop` rule) -/
theorem zero_window_no_release (s s' : St) (i : Nat) (hs : step s (.pick i) = some s')
    (hb : (s.str i).hasBuf = true) (hl : (s.str i).libClosed = false) (hz : chunk s i = 0) (hh : HIGH ≤ (s.str i).buf) :
    (s'.str i).pausedEv = (s.str i).pausedEv ∧ (s'.str i).buf = (s.str i).buf ∧ (s'.str i).pusher = (s.str i).pusher := by
  have hH := HIGH_pos
  cases step_rel s s' _ hs with
  | one hl => cases hl <;> simp_all [Guards.bufferPopRelease, HIGH] <;> omega
  | all hg => cases hg

/-- **released when pressure abates / never forever**: with the send task quiescent on an open connection, a sender
    that is still waiting (its event clear) has bytes buffered on a stream that is not reset and has no credit -/
theorem waiting_means_no_credit (c : Nat) (s : St) (hr : Reachable8 c s) (hq : taskQuiescent s) (hc : s.closed = false) (i : Nat)
    (hw : ((s.str i).pusher = .inPush ∧ (s.str i).pausedEv = false) ∨ ((s.str i).pusher = .inDrain ∧ (s.str i).emptyEv = false)) :
    (s.str i).hasBuf = true ∧ (s.str i).buf > 0 ∧ (s.str i).libClosed = false ∧ ((s.str i).window ≤ 0 ∨ s.connWin ≤ 0) := by
  have hI := reachable8_inv c s hr
  have hW := hI.wait i
  have hbuf : (s.str i).hasBuf = true ∧ ((s.str i).buf > 0 ∨ (s.str i).blocked = false) := by
    rcases hw with ⟨h1, h2⟩ | ⟨h1, h2⟩
    · exact ⟨(hW.1 h1 h2).1, (hW.1 h1 h2).2.2⟩
    · refine ⟨(hW.2 h1 h2).1, ?_⟩
      rcases (hW.2 h1 h2).2 with h | h | h
      · exact Or.inl h
      · exact Or.inr h
      · simp [hq.1] at h
  have hbl : (s.str i).blocked = true := hI.base.sleep hq.1 hq.2 i (hI.base.tree.1 i hbuf.1)
  have hpos : (s.str i).buf > 0 := by
    rcases hbuf.2 with h | h
    · exact h
    · simp [hbl] at h
  have hlc : (s.str i).libClosed = false := by
    cases hl : (s.str i).libClosed
    · rfl
    · have := hI.rel i hl
      rcases hw with ⟨h1, h2⟩ | ⟨h1, h2⟩
      · simp [this.1 h1] at h2
      · simp [this.2 h1] at h2
  exact ⟨hbuf.1, hpos, hlc, hI.base.stalled_no_credit i hbuf.1 hbl hpos hc⟩

/-- **released on credit**: once the send task is quiescent on an open connection, a stream that has credit has no sender
    left waiting with its event clear — the wake-up of a sender that is still parked is enabled -/
theorem credit_releases (c : Nat) (s : St) (hr : Reachable8 c s) (hq : taskQuiescent s) (hc : s.closed = false) (i : Nat)
    (hw : 0 < (s.str i).window) (hcw : 0 < s.connWin) :
    ((s.str i).pusher = .inPush → (step s (.pushWake i)).isSome = true) ∧
    ((s.str i).pusher = .inDrain → (step s (.drainWake i)).isSome = true) := by
  refine ⟨fun hp => ?_, fun hp => ?_⟩
  · cases he : (s.str i).pausedEv
    · have := (waiting_means_no_credit c s hr hq hc i (Or.inl ⟨hp, he⟩)).2.2.2; omega
    · simp [step, hp, he]
  · cases he : (s.str i).emptyEv
    · have := (waiting_means_no_credit c s hr hq hc i (Or.inr ⟨hp, he⟩)).2.2.2; omega
    · simp [step, hp, he]

/-- **released on reset**: in every state in which the stream is reset — by the client's RST_STREAM or by the server
    abandoning the response — a sender waiting on it can return: its wake-up is enabled -/
theorem reset_releases (c : Nat) (s : St) (hr : Reachable8 c s) (i : Nat) (hl : (s.str i).libClosed = true) :
    ((s.str i).pusher = .inPush → (step s (.pushWake i)).isSome = true) ∧
    ((s.str i).pusher = .inDrain → (step s (.drainWake i)).isSome = true) := by
  have hI := (reachable8_inv c s hr).rel i hl
  exact ⟨fun hp => by simp [step, hp, hI.1 hp], fun hp => by simp [step, hp, hI.2 hp]⟩

/-- … and the reset itself is what releases it: right after `rst i` the stream's waiting sender has its event set -/
theorem rst_sets_events (s s' : St) (i : Nat) (hs : step s (.rst i) = some s') (hb : (s.str i).hasBuf = true) :
    (s'.str i).pausedEv = true ∧ (s'.str i).emptyEv = true ∧ (s'.str i).buf = 0 ∧ (s'.str i).blocked = false := by
  simp only [step, Option.some.injEq] at hs
  subst hs
  simp [upd, Str.closeBuf, hb]

/-- **released on close**: in every state after `handle(Closed)` every waiting sender's event is set (its wake-up is
    enabled), and a further write or end-of-body does not wait for long: its wake-up is enabled at once -/
theorem close_releases (c : Nat) (s : St) (hr : Reachable8 c s) (hc : s.closed = true) (i : Nat) :
    ((s.str i).pusher = .inPush → (step s (.pushWake i)).isSome = true) ∧
    ((s.str i).pusher = .inDrain → (step s (.drainWake i)).isSome = true) ∧
    (∀ n s', step s (.push i n) = some s' → (s'.str i).pusher = .idle) ∧
    (∀ s', step s (.end_ i) = some s' → (s'.str i).pusher = .inDrain → (s'.str i).emptyEv = true) := by
  have hI := (reachable8_inv c s hr).closed hc i
  refine ⟨fun hp => ?_, fun hp => ?_, fun n s' hs => ?_, fun s' hs => ?_⟩
  · simp [step, hp, hI.2.1 hp]
  · simp [step, hp, hI.2.2 hp]
  · -- after `handle(Closed)` every buffer is complete: a further write is swallowed
    cases step_rel s s' _ hs with
    | one hl => cases hl <;> simp_all
    | all hg => cases hg
  · -- … and closed: `drain()` does not clear `_is_empty`
    cases step_rel s s' _ hs with
    | one hl => cases hl <;> simp_all [Guards.bufferDrainClears]
    | all hg => cases hg

/-- the same state with stream `i`'s sender made to wait (or not) -/
def setPusher (s : St) (i : Nat) (p : PPc) : St := { s with str := upd s.str i { (s.str i) with pusher := p } }

/-- **a waiting send blocks no other stream**: whether any op concerning another stream, the send task or the reader is
    enabled does not depend on whether stream `i`'s sender is waiting -/
theorem waiting_sender_isolated (s : St) (i j k : Nat) (w : Int) (p : PPc) (hij : j ≠ i) (hik : k ≠ i) :
    ∀ o ∈ [Op.open_ j w, .push j k, .pushWake j, .end_ j, .drainWake j, .pick j, .pickRaise j, .sent j, .endSent j, .park, .wake, .exit,
           .winStream j k, .winConn k, .settings w, .maxFrame k, .rst j, .prio j k, .abandon j, .abandonFin j, .closed],
      (step (setPusher s i p) o).isSome = (step s o).isSome := by
  have hc : chunk (setPusher s i p) j = chunk s j := by simp [chunk, setPusher, upd, hij]
  have hj : (setPusher s i p).str j = s.str j := by simp [setPusher, upd, hij]
  have hk : (setPusher s i p).str k = s.str k := by simp [setPusher, upd, hik]
  have h1 : (setPusher s i p).task = s.task := rfl
  have h2 : (setPusher s i p).closed = s.closed := rfl
  have h3 : (setPusher s i p).hasData = s.hasData := rfl
  intro o ho
  simp only [List.mem_cons, List.mem_nil_iff, or_false] at ho
  -- `isSome` is pushed through the `if`s of `step`: both sides become the same Boolean expression of the guards
  rcases ho with h | h | h | h | h | h | h | h | h | h | h | h | h | h | h | h | h | h | h | h | h <;> subst h <;>
    simp only [step, hc, hj, hk, h1, h2, h3, apply_ite Option.isSome, Option.isSome_some, Option.isSome_none]

-- non-vacuity: zero stream window, two 20000-byte writes: the second waits; a window update, two picks and it returns
example :
    (runOk (init 65535 16384) [.open_ 1 0, .push 1 20000, .push 1 20000, .pick 1, .park]).map
      (fun s => ((s.str 1).buf, (s.str 1).pusher, (s.str 1).pausedEv, s.task)) = some (40000, .inPush, false, .parked) := by decide
example :
    (runOk (init 65535 16384) [.open_ 1 0, .push 1 20000, .push 1 20000, .pick 1, .park, .winStream 1 30000, .wake,
        .pick 1, .sent 1, .pick 1, .sent 1, .pushWake 1]).map
      (fun s => ((s.str 1).buf, (s.str 1).pusher, (s.str 1).sent)) = some (10000, .idle, 30000) := by decide

/-! ## Several senders waiting on one stream buffer (WebSocket over HTTP/2): nobody is left behind (F114) -/

section several_waiters
open HC.Proto

/-- **no waiting sender is orphaned, as the code is now**: for every interleaving of any number of tasks calling
    `wait()` / `set()` / `clear()` on one `EventWrapper` of the trio worker (the tail of `StreamBuffer.push` is
    `wait(); clear()`, `pop` and `close` call `set()`), whoever is blocked is blocked on the event object in use - so the
    next `set()` (the buffer has drained, the connection has closed) wakes every one of them -/
theorem waiting_senders_never_orphaned (ops : List EventRace.Op) :
    (∀ w ∈ (EventRace.run EventRace.current {} ops).waiting, w.2 = (EventRace.run EventRace.current {} ops).gen) ∧
    (EventRace.step EventRace.current (EventRace.run EventRace.current {} ops) .set).waiting = [] := by
  have hc : EventRace.current = true := rfl
  rw [hc]
  have h := EventRace.inv_run ops {} EventRace.inv_init
  exact ⟨h.onCurrent, (EventRace.inv_step _ .set h).setMeansNone rfl⟩

/-- **before the repair (/repo b3e2f6b) it was false**: `clear()` replaced the event whatever its state.  Two senders
    blocked on one buffer, the buffer drains (`set`), the first to run clears and - the buffer full again - waits on the
    new object, the second to run clears too: the first is now blocked on an object that is not in use, and no number of
    later `set()`s (or `clear()`s) wakes it -/
theorem unguarded_clear_orphaned_a_sender :
    let e := EventRace.run false {} [.wait 1, .wait 2, .set, .clear, .wait 2, .clear]
    e.waiting = [(2, 1)] ∧ e.gen = 2 ∧
    (EventRace.run false e [.set, .clear, .set, .set, .clear, .set]).waiting = [(2, 1)] := by decide

-- non-vacuity: the same interleaving on the code as it is: the second clear() finds the event unset and leaves it alone,
-- the next set() wakes task 2
example : let e := EventRace.run true {} [.wait 1, .wait 2, .set, .clear, .wait 2, .clear]
    e.waiting = [(2, 1)] ∧ e.gen = 1 ∧ (EventRace.run true e [.set]).waiting = [] := by decide

end several_waiters

end HC.Props.C08
