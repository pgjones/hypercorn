import HC.Proto.H2Recv
import HC.Proto.H11
import HC.Proto.H11Safe
/-!
# C04 — no client input causes an internal error; HTTP/2 faults stay on their stream

HTTP/2 part: theorems about `HC.Proto.H2Recv` (the `Except`-valued receive-side glue of `H2Protocol` over oracle
libraries, every `except` clause read from the source by the extractor).

* `TotalH2`              — the full statement (a definition); `total_h2_partial` / `total_h2_from` are what holds of the code as
                           it is, `total_h2_fails_as_is` the negation witness (finding F44: `RecursionError` out of
                           `next(self.priority)`).
* `h2_protocol_error`    — `receive_data` raising any h2 `ProtocolError` ⇒ flush (GOAWAY) then `Closed`, state untouched.
* `isolation`            — non-interference for the merely unusual events.

HTTP/1 and WebSocket (over `HC.Proto.H11` / `HC.Stream.Ws`, lemmas in `HC/Proto/H11Total|H11Inv|H11Run|H11Ev|H11Safe.lean`,
`HC/Stream/WsTotal.lean`, `HC/Lib/H11MSend.lean`):

* `h1_rejected_classified` — every `none` of the model's reader step (what the driver reports as "rejected") is either an op the
                           libraries / the scheduler cannot produce (`enabled` = LibWf false) or an exception leaving the handler
                           at one of the places `escapeEv` names;
* `total_h1` / `total_h1_from` — for every op sequence satisfying LibWf (any application behaviour, any interleaving, closes,
                           shutdown, the deferred `StreamClosed` of self-answering streams) no op lets an exception escape the
                           connection handler and the model accepts every op;
* `total_ws` / `total_ws_from` — `WSStream.handle` never raises for any sequence of wsproto events allowed by the library's
                           message-reassembly state, application messages (with or without a raising protocol) and closes.

Source guards (facts read off the source that the models above hard-code): `h1_error_guard`, `h1_error_ignore_guard`,
`h2_initiate_guard`, `ws_answer_order_guard`, `ws_early_data_guard`.
-/
namespace HC.Props.C04
open HC.Proto.H2Recv HC.Extracted

/-! ### what the extracted `except` clauses catch -/

/- Every clause that is to catch an h2 / priority error names the base class the libraries document (`isH2` / `isPrio` test
   for exactly that class), every other one the class of the exception itself: `catches_of_mem` / `catches_own`, with `simp`
   looking the class up in the clause.  Beyond `mro_self` (a class is among its own bases) the MRO table is evaluated for
   `priority.MissingStreamError` being a `KeyError` (which is how `_send_data` catches it), for the two negative facts (in
   `createStream_ok`, `total_h2_fails_as_is`), and for `h2_protocol_error_classes`. -/
attribute [local simp] Exn.cls C04Sites.h2Handle C04Sites.h2EventsTerminated C04Sites.h2EventsData C04Sites.h2EventsEnded
  C04Sites.h2CreateRefuse C04Sites.h2ErrorResponse C04Sites.h2StreamSend C04Sites.h2SendTaskNext C04Sites.h2SendData
  C04Sites.h2SendDataCleanup C04Sites.h2AbandonReset C04Sites.h2AbandonRemove C04Sites.h2PrioOuter C04Sites.h2CreateInsertPass
  C04Sites.h2CreateInsertRefuse

theorem catches_handle (e : Exn) (h : e.isH2 = true) : catches C04Sites.h2Handle e = true :=
  catches_of_mem (by simp) h
theorem catches_sendData_h2 (e : Exn) (h : e.isH2 = true) : catches C04Sites.h2SendData e = true :=
  catches_of_mem (by simp) h
theorem catches_prioOuter (e : Exn) (h : e.isPrio = true) : catches C04Sites.h2PrioOuter e = true :=
  catches_of_mem (by simp) h
theorem catches_data_keyError : catches C04Sites.h2EventsData .keyError = true := catches_own (by simp)
theorem catches_ended_keyError : catches C04Sites.h2EventsEnded .keyError = true := catches_own (by simp)
theorem catches_sendData_missing : catches C04Sites.h2SendData .prioMissing = true :=
  catches_of_mem (c := "KeyError") (by simp) (by simp [Exn.mro, C04Sites.classMro, List.lookup])

/-! ### priority-tree membership under the tree operations -/

theorem pmem_prioSet (p : List (Nat × Bool)) (sid x : Nat) (a : Bool) : pmem (prioSet p sid a) x = pmem p x := by
  simp only [pmem, prioSet, List.any_map]
  congr 1; funext q
  by_cases h : q.1 = sid <;> simp [h]

theorem pmem_append (p q : List (Nat × Bool)) (x : Nat) : pmem (p ++ q) x = (pmem p x || pmem q x) := by
  simp [pmem, List.any_append]

theorem pmem_prioInsert_self (p : List (Nat × Bool)) (sid dep : Nat) : pmem (prioInsert p sid dep) sid = true := by
  simp [prioInsert, pmem]

theorem pmem_prioInsert_mono (p : List (Nat × Bool)) (sid dep x : Nat) (h : pmem p x = true) : pmem (prioInsert p sid dep) x = true := by
  unfold prioInsert
  split <;> simp [pmem_append, h]

theorem pmem_prioParent_mono (p : List (Nat × Bool)) (dep x : Nat) (h : pmem p x = true) : pmem (prioParent p dep) x = true := by
  unfold prioParent
  split <;> simp [pmem_append, h]

theorem pmem_prioErase (p : List (Nat × Bool)) (sid x : Nat) (hne : x ≠ sid) : pmem (prioErase p sid) x = pmem p x := by
  simp only [pmem, prioErase, List.any_filter]
  congr 1; funext q
  by_cases h : q.1 = x <;> simp [h, hne]

/-! ### the pieces of the reader are total and keep the invariant -/

theorem prioBlock_ok (s : St) (sid : Nat) (a : Bool) (h : s.inPrio sid = true) :
    ∃ o, prioBlock s sid a = .ok ({ s with prio := prioSet s.prio sid a }, o) := by
  simp [prioBlock, h]

/-- `Inv` reads `buffers` and `prio` only -/
theorem inv_congr {s s' : St} (hb : s'.buffers = s.buffers) (hp : s'.prio = s.prio) (hI : Inv s) : Inv s' := by
  intro x hx
  rw [hb] at hx
  rw [St.inPrio, hp]
  exact hI x hx

theorem inv_prioSet (s : St) (sid : Nat) (a : Bool) (hI : Inv s) : Inv { s with prio := prioSet s.prio sid a } := by
  intro x hx
  have := hI x hx
  simpa [St.inPrio, pmem_prioSet] using this

theorem unblockAll_ok : ∀ (l : List Nat) (s : St) (o : List Out), Inv s → (∀ x ∈ l, x ∈ s.buffers) →
    ∃ s1 o1, unblockAll s l o = .ok (s1, o1) ∧ Inv s1 ∧ s1.buffers = s.buffers ∧ s1.streams = s.streams ∧
      (∀ x, s1.inPrio x = s.inPrio x) := by
  intro l
  induction l with
  | nil => intro s o hI _; exact ⟨s, o, rfl, hI, rfl, rfl, fun _ => rfl⟩
  | cons sid rest ih =>
    intro s o hI hl
    obtain ⟨o1, ho1⟩ := prioBlock_ok s sid true (hI sid (hl sid List.mem_cons_self))
    obtain ⟨s2, o2, h2, hI2, hb2, hs2, hp2⟩ := ih { s with prio := prioSet s.prio sid true } (o ++ o1)
      (inv_prioSet s sid true hI) (fun x hx => hl x (List.mem_cons_of_mem _ hx))
    refine ⟨s2, o2, by simp only [unblockAll, ho1]; exact h2, hI2, hb2, hs2, fun x => ?_⟩
    rw [hp2 x]; simp [St.inPrio, pmem_prioSet]

theorem windowUpdated_ok (s : St) (sid : Nat) (hI : Inv s) :
    ∃ s1 o1, windowUpdated s sid = .ok (s1, o1) ∧ Inv s1 ∧ s1.buffers = s.buffers ∧ s1.streams = s.streams := by
  unfold windowUpdated
  split
  · obtain ⟨s1, o1, h1, hI1, hb, hs, _⟩ := unblockAll_ok s.buffers s [] hI (fun _ h => h)
    exact ⟨s1, o1 ++ [.hasData], by simp [h1], hI1, hb, hs⟩
  · split
    · rename_i hc
      have hp : s.inPrio sid = true := hI sid (by simpa using hc)
      obtain ⟨o1, ho1⟩ := prioBlock_ok s sid true hp
      exact ⟨_, o1 ++ [.hasData], by simp [ho1], inv_prioSet s sid true hI, rfl, rfl⟩
    · exact ⟨s, [.hasData], rfl, hI, rfl, rfl⟩

theorem errorResponse_ok (s : St) (sid : Nat) (lib : Option Exn) (hl : optAll Exn.isH2 lib = true) :
    ∃ o, errorResponse s sid lib = .ok (s, o) := by
  cases lib with
  | none => exact ⟨_, rfl⟩
  | some e => exact ⟨_, if_pos (catches_of_mem (by simp) hl)⟩

/-- a request without `:path`, or with a non-ASCII `:method` / `:path`, is answered by `_create_stream` itself -/
theorem createStream_rejected (s : St) (r : Req) (ins lib : Option Exn) (hm : r.hasMethod = true)
    (hbad : (!r.hasPath || !r.methodAscii || !r.pathAscii) = true) :
    createStream s r ins lib = errorResponse s r.sid lib := by
  rw [createStream_eq, if_pos]
  rw [hm]; revert hbad
  cases r.hasPath <;> cases r.methodAscii <;> cases r.pathAscii <;> decide

/-- `_create_stream` never lets an exception escape, and keeps the invariant -/
theorem createStream_ok (s : St) (r : Req) (ins lib : Option Exn) (hI : Inv s)
    (hw : (Ev.request r ins lib).wf s = true) :
    ∃ s1 o, createStream s r ins lib = .ok (s1, o) ∧ Inv s1 := by
  simp only [Ev.wf, Req.wf, Bool.and_eq_true] at hw
  obtain ⟨⟨⟨hm, _⟩, hl⟩, hins⟩ := hw
  rw [createStream_eq]
  split
  · obtain ⟨o, ho⟩ := errorResponse_ok s r.sid lib hl
    exact ⟨s, o, ho, hI⟩
  · next hgood =>
    have hpath : r.hasPath = true ∧ r.pathAscii = true := by
      revert hgood; cases r.hasPath <;> cases r.pathAscii <;> simp
    -- the stream objects are created only once the tree has the stream
    have hnew : ∀ (s1 : St) (o1 : List Out), Inv s1 → s1.inPrio r.sid = true → ∃ s2 o, createNew r s1 o1 = .ok (s2, o) ∧ Inv s2 := by
      intro s1 o1 h1 hin
      refine ⟨_, _, by simp only [createNew, hpath.1, hpath.2, streamRequest]; rfl, ?_⟩
      intro x hx
      rcases (mem_keysAdd _ _ _).mp hx with hx | rfl
      · exact h1 x hx
      · exact hin
    rw [if_neg (by simp [hm])]
    cases ins with
    | none =>
      have hnp : s.inPrio r.sid = false := by simpa using hins
      simp only [createEnter, hnp, Bool.false_eq_true, if_false, bind, Except.bind]
      refine hnew _ _ (fun x hx => ?_) ?_ <;> simp only [St.inPrio, pmem_prioSet]
      · exact pmem_prioInsert_mono _ _ _ _ (hI x hx)
      · exact pmem_prioInsert_self _ _ _
    | some e =>
      simp only [Bool.or_eq_true, Bool.and_eq_true, beq_iff_eq] at hins
      rcases hins with ⟨rfl, hin⟩ | ⟨rfl, hin⟩
      · have hpass : catches C04Sites.h2CreateInsertPass .prioDuplicate = true := catches_own (by simp)
        simp only [createEnter, hpass, if_true, bind, Except.bind]
        exact hnew _ _ hI hin
      · -- the tree is full: `TooManyStreamsError` is not passed over (the stream would be created outside the tree) but refused
        have hpass : catches C04Sites.h2CreateInsertPass .prioTooMany = false := by
          simp [catches, Exn.mro, C04Sites.classMro, List.lookup]
        have href : catches C04Sites.h2CreateInsertRefuse .prioTooMany = true := catches_own (by simp)
        simp only [createEnter, hpass, Bool.false_eq_true, if_false, href, if_true, bind, Except.bind]
        cases lib with
        | none => exact ⟨s, _, rfl, hI⟩
        | some e2 => exact ⟨s, _, if_pos (catches_of_mem (by simp) hl), hI⟩

theorem closeStream_inv (s : St) (sid : Nat) (hI : Inv s) : Inv (closeStream s sid).1 ∧ (closeStream s sid).1.buffers = s.buffers := by
  unfold closeStream
  split
  · exact ⟨inv_congr rfl rfl hI, rfl⟩
  · exact ⟨hI, rfl⟩

theorem priorityUpdated_ok (s : St) (sid dep : Nat) (rep ins : Option Exn) (pe : Bool) (hI : Inv s)
    (hw : (Ev.priority sid dep rep ins pe).wf s = true) :
    ∃ s1 o, priorityUpdated s sid dep rep ins pe = .ok (s1, o) ∧ Inv s1 := by
  simp only [Ev.wf, Bool.and_eq_true] at hw
  obtain ⟨hrep, hins⟩ := hw
  have hpar : Inv { s with prio := prioParent s.prio dep } := fun x hx => pmem_prioParent_mono _ _ _ (hI x hx)
  have hwp : Inv (if pe then { s with prio := prioParent s.prio dep } else s) := by
    split
    · exact hpar
    · exact hI
  unfold priorityUpdated
  cases rep with
  | none =>
    have hin : s.inPrio sid = true := by simpa using hrep
    simp only [hin, if_true]
    exact ⟨_, _, rfl, hpar⟩
  | some e =>
    simp only [Bool.and_eq_true] at hrep
    dsimp only
    -- whether or not the inner clause takes `e`: what reaches the outer clause is a `PriorityError`
    split
    · cases ins with
      | none =>
        refine ⟨_, _, rfl, ?_⟩
        intro x hx
        simp only [St.inPrio, pmem_prioSet]
        exact pmem_prioInsert_mono _ _ _ _ (hI x hx)
      | some e2 =>
        have h2 : e2.isPrio = true := by
          simp only [optAll, Bool.and_eq_true] at hins; exact hins.1
        simp only [catches_prioOuter e2 h2, if_true]
        exact ⟨_, _, rfl, hwp⟩
    · simp only [catches_prioOuter e hrep.1, if_true]
      exact ⟨_, _, rfl, hwp⟩

/-- every event of a batch is handled without an exception escaping, and the invariant is kept -/
theorem onEvent_ok (kaMax : Nat) (s : St) (e : Ev) (hI : Inv s) (hw : e.wf s = true) :
    ∃ s1 o, onEvent kaMax s e = .ok (s1, o) ∧ Inv s1 := by
  cases e with
  | request r ins lib =>
    simp only [onEvent]
    split
    · -- shutting down: the stream is reset, whatever h2 says to that
      have hl : optAll Exn.isH2 lib = true := by
        simp only [Ev.wf, Bool.and_eq_true] at hw; exact hw.1.2
      split
      · exact ⟨_, _, rfl, hI⟩
      · rw [if_pos (catches_of_mem (by simp) hl)]
        exact ⟨_, _, rfl, hI⟩
    · obtain ⟨s1, o, h1, hI1⟩ := createStream_ok s r ins lib hI hw
      rw [h1]
      exact ⟨_, _, rfl, hI1⟩
  | data sid => exact ⟨_, _, onEvent_data kaMax s sid, hI⟩
  | ended sid => exact ⟨_, _, onEvent_ended kaMax s sid, hI⟩
  | reset sid =>
    obtain ⟨s2, o2, h2, hI2, _, _⟩ := windowUpdated_ok (closeStream s sid).1 sid (closeStream_inv s sid hI).1
    simp only [onEvent, h2]
    exact ⟨_, _, rfl, hI2⟩
  | window sid =>
    obtain ⟨s2, o2, h2, hI2, _, _⟩ := windowUpdated_ok s sid hI
    exact ⟨s2, o2, h2, hI2⟩
  | priority sid dep rep ins pe => exact priorityUpdated_ok s sid dep rep ins pe hI hw
  | settings iw =>
    simp only [onEvent]
    split
    · obtain ⟨s2, o2, h2, hI2, _, _⟩ := windowUpdated_ok s 0 hI
      exact ⟨s2, o2, h2, hI2⟩
    · exact ⟨_, _, rfl, hI⟩
  | terminated => exact ⟨_, _, rfl, hI⟩
  | other => exact ⟨_, _, rfl, hI⟩

/-! ### the send task and the applications' `stream_send` -/

theorem inv_keysDel_prioErase (s : St) (sid : Nat) (hI : Inv s) :
    Inv { s with buffers := keysDel s.buffers sid, prio := prioErase s.prio sid } := by
  intro x hx
  simp only [mem_keysDel] at hx
  simp only [St.inPrio, pmem_prioErase _ _ _ hx.2]
  exact hI x hx.1

theorem inv_keysDel (s : St) (sid : Nat) (hI : Inv s) : Inv { s with buffers := keysDel s.buffers sid } := by
  intro x hx
  simp only [mem_keysDel] at hx
  exact hI x hx.1

/-- a protected block keeps the invariant whatever happens, and can only be ended by something the clause `site` catches -/
def Guarded (site : List String) (p : Partial) : Prop := Inv p.1 ∧ ∀ e, p.2.2 = some e → catches site e = true

theorem guarded_ok {site : List String} {s : St} {o : List Out} (hI : Inv s) : Guarded site (s, o, none) :=
  ⟨hI, fun _ he => nomatch he⟩

theorem guarded_err {site : List String} {s : St} {o : List Out} {e : Exn} (hI : Inv s) (hc : catches site e = true) :
    Guarded site (s, o, some e) :=
  ⟨hI, fun _ he => Option.some.inj he ▸ hc⟩

-- (in a binder `Inv` alone is ambiguous: core has a class `Inv`)
theorem guarded_andThen {site : List String} {p : Partial} {k : St → List Out → Partial} (hp : Guarded site p)
    (hk : ∀ s1 o1, HC.Proto.H2Recv.Inv s1 → Guarded site (k s1 o1)) : Guarded site (andThen p k) := by
  rcases andThen_cases p k with ⟨e, _, h⟩ | ⟨_, h⟩ <;> rw [h]
  · exact hp
  · exact hk _ _ hp.1

theorem sendFirst_ok {s : St} (sid : Nat) {o : SendOracle} (hI : Inv s) (hw : optAll Exn.isH2 o.send = true) :
    Guarded C04Sites.h2SendData (sendFirst s sid o) := by
  unfold sendFirst
  split
  · split
    · exact guarded_ok (inv_prioSet s sid false hI)
    · exact guarded_err hI catches_sendData_missing
  · split
    · next e he => exact guarded_err hI (catches_sendData_h2 e (by rwa [he] at hw))
    · exact guarded_ok hI

theorem sendFinish_ok (go : Bool) (sid : Nat) {o : SendOracle} {s1 : St} (o1 : List Out) (hI : Inv s1)
    (hw : optAll Exn.isH2 o.endStream = true) : Guarded C04Sites.h2SendData (sendFinish go sid o s1 o1) := by
  unfold sendFinish
  split
  · split
    · next e he => exact guarded_err hI (catches_sendData_h2 e (by rwa [he] at hw))
    · dsimp only
      split
      · exact guarded_ok (inv_keysDel_prioErase s1 sid hI)
      · exact guarded_err (inv_keysDel s1 sid hI) catches_sendData_missing
  · exact guarded_ok hI

/-- the protected body of `_send_data` keeps the invariant whatever happens, and can only be ended by something the
    `except` clause catches -/
theorem sendBody_ok (s : St) (sid : Nat) (o : SendOracle) (hI : Inv s) (hw : o.wf = true) :
    Inv (sendBody s sid o).1 ∧ ∀ e, (sendBody s sid o).2.2 = some e → catches C04Sites.h2SendData e = true := by
  simp only [SendOracle.wf, Bool.and_eq_true] at hw
  rw [sendBody_eq]
  split
  · next e he => exact guarded_err hI (catches_sendData_h2 e (by have := hw.1.1; rwa [he] at this))
  · split
    · exact guarded_err hI (catches_own (by simp))
    · exact guarded_andThen (sendFirst_ok sid hI hw.1.2) fun s1 o1 h1 => sendFinish_ok _ sid o1 h1 hw.2

theorem sendCleanup_ok (s : St) (sid : Nat) (o0 : List Out) (hI : Inv s) : ∃ s1 o1, sendCleanup s sid o0 = .ok (s1, o1) ∧ Inv s1 := by
  unfold sendCleanup
  simp only
  split
  · exact ⟨_, _, rfl, inv_keysDel_prioErase s sid hI⟩
  · rw [if_pos (catches_own (by simp))]
    exact ⟨_, _, rfl, fun x hx => List.any_eq_true.mpr ⟨_, List.mem_map_of_mem hx, beq_self_eq_true x⟩⟩

/-- `Guarded site p` is what `protect site p` needs of its body -/
theorem protect_ok {site : List String} {p : Partial} {handler : St → List Out → R} (hp : Guarded site p)
    (hh : ∀ s1 o1, HC.Proto.H2Recv.Inv s1 → ∃ s2 o2, handler s1 o1 = .ok (s2, o2) ∧ HC.Proto.H2Recv.Inv s2) :
    ∃ s2 o2, protect site p handler = .ok (s2, o2) ∧ HC.Proto.H2Recv.Inv s2 := by
  obtain ⟨s1, o1, _ | e⟩ := p
  · exact ⟨s1, o1, rfl, hp.1⟩
  · simp only [protect, hp.2 e rfl, if_true]
    exact hh s1 o1 hp.1

theorem sendData_ok (s : St) (sid : Nat) (o : SendOracle) (hI : Inv s) (hw : o.wf = true) :
    ∃ s1 o1, sendData s sid o = .ok (s1, o1) ∧ Inv s1 :=
  sendData_eq_protect s sid o ▸ protect_ok (sendBody_ok s sid o hI hw) fun s1 o1 h1 => sendCleanup_ok s1 sid o1 h1

theorem sendTask_ok (s : St) (n : NextRes) (hI : Inv s) (hw : n.wf false s = true) :
    ∃ s1 o1, sendTask s n = .ok (s1, o1) ∧ Inv s1 := by
  cases n with
  | deadlock => exact ⟨s, [], by rw [sendTask, if_pos (catches_own (by simp))], hI⟩
  | raised e => simp [NextRes.wf] at hw
  | stream sid o =>
    simp only [NextRes.wf, Bool.and_eq_true] at hw
    exact sendData_ok s sid o hI hw.2

theorem resetAbandoned_ok (s : St) (sid : Nat) (lib : Option Exn) (hI : Inv s) (hl : optAll Exn.isH2 lib = true) :
    Inv (resetAbandoned s sid lib).1 ∧ (resetAbandoned s sid lib).2.2 = none := by
  unfold resetAbandoned
  cases lib with
  | some e1 =>
    dsimp only
    rw [if_pos (catches_of_mem (by simp) hl)]
    exact ⟨hI, rfl⟩
  | none =>
    dsimp only
    split
    · exact ⟨inv_keysDel_prioErase s sid hI, rfl⟩
    · rw [if_pos (catches_own (by simp))]
      exact ⟨inv_keysDel s sid hI, rfl⟩

theorem unblockP_ok (s : St) (sid : Nat) (hI : Inv s) :
    Inv (unblockP s sid).1 ∧ (unblockP s sid).1.buffers = s.buffers ∧ ∀ e, (unblockP s sid).2.2 = some e → e = .prioMissing := by
  unfold unblockP
  split
  · exact ⟨inv_prioSet s sid true hI, rfl, by intro e he; cases he⟩
  · exact ⟨hI, rfl, by intro e he; simp only [Option.some.injEq] at he; exact he.symm⟩

theorem unblockP_guarded {s : St} (sid : Nat) (hI : Inv s) : Guarded C04Sites.h2StreamSend (unblockP s sid) :=
  have h := unblockP_ok s sid hI
  ⟨h.1, fun e he => h.2.2 e he ▸ catches_own (by simp)⟩

/-- the protected body of `stream_send` keeps the invariant whatever happens, and can only be ended by something the
    `except` clause catches -/
theorem streamBody_ok (s : St) (sid : Nat) (op : AppOp) (hI : Inv s) (hw : op.wf = true) :
    Inv (streamBody s sid op).1 ∧ ∀ e, (streamBody s sid op).2.2 = some e → catches C04Sites.h2StreamSend e = true := by
  cases op with
  | headers lib =>
    cases lib with
    | none => exact guarded_ok hI
    | some e => exact guarded_err hI (catches_of_mem (by simp) hw)
  | body push =>
    rw [streamBody_body]
    refine guarded_andThen (unblockP_guarded sid hI) fun s1 o1 h1 => ?_
    split
    · exact guarded_err h1 (catches_own (by simp))
    · cases push with
      | none => exact guarded_ok h1
      | some e => exact guarded_err h1 (eq_of_beq hw ▸ catches_own (by simp))
  | endBody =>
    rw [streamBody_endBody]
    split
    · exact guarded_err hI (catches_own (by simp))
    · exact guarded_andThen (unblockP_guarded sid hI) fun s1 o1 h1 => guarded_ok h1
  | streamClosed abandon lib =>
    rw [streamBody_closed]
    split
    · exact guarded_ok hI
    · refine guarded_andThen ?_ fun s1 o1 h1 => guarded_ok (closeStream_inv s1 sid h1).1
      split
      · have h := resetAbandoned_ok s sid lib hI hw
        exact ⟨h.1, fun e he => by rw [h.2] at he; cases he⟩
      · exact guarded_ok hI

theorem streamSend_ok (s : St) (sid : Nat) (op : AppOp) (hI : Inv s) (hw : op.wf = true) :
    ∃ s1 o1, streamSend s sid op = .ok (s1, o1) ∧ Inv s1 :=
  streamSend_eq_protect s sid op ▸ protect_ok (streamBody_ok s sid op hI hw) fun s1 o1 h1 => ⟨s1, o1, rfl, h1⟩

/-! ### one step, whole runs -/

theorem step_ok (kaMax : Nat) (s : St) (op : Op) (hI : Inv s) (hw : op.wf false s = true) :
    ∃ s1 o, step kaMax s op = .ok (s1, o) ∧ Inv s1 := by
  cases op with
  | ev e => exact onEvent_ok kaMax s e hI hw
  | batchEnd => exact ⟨s, _, rfl, hI⟩
  | recvRaised e => exact ⟨s, _, if_pos (catches_handle e hw), hI⟩
  | closed => exact ⟨_, _, rfl, inv_congr rfl rfl hI⟩
  | terminate => exact ⟨_, _, rfl, inv_congr rfl rfl hI⟩
  | app sid op => exact streamSend_ok s sid op hI hw
  | sendTask n => exact sendTask_ok s n hI hw

theorem run_ok (kaMax : Nat) : ∀ (ops : List Op) (s : St), Inv s → LibWf false kaMax s ops →
    ∃ s1 o, run kaMax s ops = .ok (s1, o) ∧ Inv s1 := by
  intro ops
  induction ops with
  | nil => intro s hI _; exact ⟨s, [], rfl, hI⟩
  | cons op rest ih =>
    intro s hI hw
    obtain ⟨hop, hrest⟩ := hw
    obtain ⟨s1, o1, h1, hI1⟩ := step_ok kaMax s op hI hop
    obtain ⟨s2, o2, h2, hI2⟩ := ih s1 hI1 (hrest s1 o1 h1)
    exact ⟨s2, o1 ++ o2, by simp [run, h1, h2], hI2⟩

/-- **C04 (HTTP/2), full statement**: whatever the libraries may answer (`allowRecursion`: including what the installed
    priority tree can really do), no sequence of events, application sends, send-task iterations, closes … makes an
    exception escape the glue. -/
def TotalH2 (allowRecursion : Bool) : Prop :=
  ∀ (kaMax : Nat) (ops : List Op), LibWf allowRecursion kaMax {} ops → ∃ r, run kaMax {} ops = .ok r

/-- from any state that satisfies the invariant (every buffered stream is in the priority tree), which every reachable
    state does: no run in which `next(self.priority)` does not exhaust the interpreter's stack lets an exception escape -/
theorem total_h2_from (kaMax : Nat) (s : St) (ops : List Op) (hI : Inv s) (hw : LibWf false kaMax s ops) :
    ∃ r, run kaMax s ops = .ok r := by
  obtain ⟨s1, o, h, _⟩ := run_ok kaMax ops s hI hw
  exact ⟨(s1, o), h⟩

/-- what holds of the code as it is: total for every run in which `next(self.priority)` does not exhaust the
    interpreter's stack (every other library answer is covered) -/
theorem total_h2_partial : TotalH2 false :=
  fun kaMax ops hw => total_h2_from kaMax {} ops (by intro x hx; cases hx) hw

/-- negation witness (finding F44): the send task does not survive a `RecursionError` from `next(self.priority)` -/
theorem total_h2_fails_as_is : ¬ TotalH2 true := by
  intro h
  have := h 1000 [.sendTask (.raised .recursionError)] (by
    refine ⟨by decide, ?_⟩
    intro s1 o1 _; trivial)
  obtain ⟨r, hr⟩ := this
  have hrec : catches C04Sites.h2SendTaskNext .recursionError = false := by
    simp [catches, Exn.mro, C04Sites.classMro, List.lookup]
  simp only [run, step, sendTask, hrec, Bool.false_eq_true, if_false] at hr
  cases hr

/-- hypotheses of `total_h2_partial` are satisfiable by a run that exercises the unusual paths: PRIORITY before HEADERS,
    a refused PRIORITY (tree full), CONNECT without `:path`, a non-ASCII path, an ordinary request, late DATA, reset -/
example : LibWf false 1000 {}
    [.ev (.priority 1 0 (some .prioMissing) none false), .ev (.priority 3 1 (some .prioMissing) (some .prioTooMany) false),
     .ev (.request { sid := 1 } (some .prioDuplicate) none),
     .ev (.request { sid := 5, isConnect := true, hasPath := false } none none),
     .ev (.request { sid := 7, pathAscii := false } none (some .h2StreamClosed)),
     .batchEnd, .app 1 (.headers none), .app 1 (.body none), .app 1 .endBody,
     .sendTask (.stream 1 { complete := true }), .app 1 (.streamClosed false none),
     .ev (.data 1), .ev (.ended 1), .ev (.reset 1), .ev (.window 0), .batchEnd] :=
  libWfB_sound _ _ _ _ (by decide +kernel)

/-! ### `h2_protocol_error` -/

/-- `receive_data` raising any of h2's `ProtocolError`s: the pending bytes (h2 has queued the GOAWAY) are flushed, then
    `Closed` is sent; no stream, buffer or tree entry is touched and nothing else happens -/
theorem h2_protocol_error (kaMax : Nat) (s : St) (e : Exn) (he : e.isH2 = true) :
    step kaMax s (.recvRaised e) = .ok (s, [.flush, .upClosed]) :=
  if_pos (catches_handle e he)

/-- every `ProtocolError` subclass h2 defines is covered by that clause -/
theorem h2_protocol_error_classes :
    [Exn.h2Protocol, .h2StreamClosed, .h2NoSuchStream, .h2FlowControl, .h2TooManyStreams, .h2NoAvailableStreamID, .h2FrameTooLarge].all
      Exn.isH2 = true := by
  simp [Exn.isH2, Exn.mro, Exn.cls, C04Sites.classMro, List.lookup]

/-! ### `isolation` -/

/-- an odd event changes nothing but what is addressed to its own stream (plus connection-level bookkeeping) -/
theorem odd_step (kaMax : Nat) (s s1 : St) (op : Op) (i : Nat) (o : List Out)
    (hodd : oddSid s op = some i) (hs : step kaMax s op = .ok (s1, o)) :
    s1 = s ∧ ∀ x ∈ o, x.tag = some i ∨ x.tag = none := by
  unfold oddSid at hodd
  split at hodd
  · -- DATA for a stream that is gone: acknowledged
    split at hodd <;> cases hodd
    next hc =>
    rw [step, onEvent_data, if_neg hc] at hs
    cases hs
    exact ⟨rfl, by simp [Out.tag]⟩
  · split at hodd <;> cases hodd
    next hc =>
    rw [step, onEvent_ended, if_neg hc] at hs
    cases hs
    exact ⟨rfl, by simp⟩
  · -- a request `_create_stream` answers by itself: the state is untouched
    next r ins lib =>
    split at hodd <;> cases hodd
    next hc =>
    simp only [Bool.and_eq_true, Bool.not_eq_true', Req.wf] at hc
    obtain ⟨⟨ht, hm, _⟩, hbad⟩ := hc
    simp only [step, onEvent, ht, Bool.false_eq_true, if_false, createStream_rejected s r ins lib hm hbad] at hs
    obtain ⟨⟨s2, o2⟩, he, hs⟩ := Except.bind_eq_ok.mp hs
    cases hs
    obtain ⟨rfl, ho⟩ := errorResponse_inv he
    refine ⟨rfl, fun x hx => ?_⟩
    dsimp only at hx
    rcases List.mem_append.mp hx with hx | hx
    · rcases List.mem_append.mp hx with hx | hx
      · rcases ho with rfl | rfl <;> simp at hx <;> rcases hx with rfl | rfl <;> simp [Out.tag]
      · rw [List.mem_singleton.mp hx]; exact .inr rfl
    · split at hx
      · rw [List.mem_singleton.mp hx]; exact .inr rfl
      · cases hx
  · cases hodd

theorem obs_append (j : Nat) (a b : List Out) : obs j (a ++ b) = obs j a ++ obs j b := by simp [obs]

theorem obs_foreign (i j : Nat) (hij : j ≠ i) (o : List Out) (h : ∀ x ∈ o, x.tag = some i ∨ x.tag = none) : obs j o = [] := by
  simp only [obs, List.filter_eq_nil_iff]
  intro x hx
  rcases h x hx with h1 | h1 <;> simp [h1]
  exact fun h2 => hij h2.symm

/-- Non-interference: take any run and leave out the merely unusual events of stream `i` — DATA or
    END_STREAM arriving after its response completed, a CONNECT without `:path`, a non-ASCII `:method` / `:path`.
    The run still succeeds, ends in the *same* state (streams, buffers, priority tree, request counter), and every other
    stream `j` observes exactly the same calls and events, in the same order. -/
theorem isolation (kaMax : Nat) (i j : Nat) (hij : j ≠ i) : ∀ (ops : List Op) (s s1 : St) (o1 : List Out),
    run kaMax s ops = .ok (s1, o1) →
    ∃ o2, runDrop kaMax i s ops = .ok (s1, o2) ∧ obs j o1 = obs j o2 := by
  intro ops
  induction ops with
  | nil => intro s s1 o1 h; cases h; exact ⟨[], rfl, rfl⟩
  | cons op rest ih =>
    intro s s1 o1 h
    obtain ⟨sa, oa, ob, hstep, hrest, rfl⟩ := run_cons_ok h
    obtain ⟨o2, hd, hobs⟩ := ih sa s1 ob hrest
    by_cases hodd : oddSid s op = some i
    · obtain ⟨rfl, htags⟩ := odd_step kaMax s sa op i oa hodd hstep
      exact ⟨o2, by simp [runDrop, hodd, hd], by rw [obs_append, obs_foreign i j hij oa htags, hobs]; rfl⟩
    · exact ⟨oa ++ o2, by simp [runDrop, hodd, hstep, hd], by rw [obs_append, obs_append, hobs]⟩

/-- the unusual streams themselves are answered, not dropped: a CONNECT without `:path` and a request with a non-ASCII
    `:method` / `:path` get exactly one `send_headers` (the 400) on their own stream and nothing is created for them -/
theorem unusual_request_answered (s : St) (r : Req) (ins : Option Exn) (hw : r.wf = true)
    (hodd : (!r.hasPath || !r.methodAscii || !r.pathAscii) = true) :
    createStream s r ins none = .ok (s, [.h2call "send_headers" r.sid false, .flush]) := by
  simp only [Req.wf, Bool.and_eq_true] at hw
  rw [createStream_rejected s r ins none hw.1 hodd]; rfl

/-! ### HTTP/1: the malformed-request path of `H11Protocol._handle_events` (model `HC.Proto.H11` over `H11M`) -/

section H1
open HC HC.Proto HC.Lib

/-- the headers of the protocol-level error response, before the server's own headers -/
def errorHeaders (cfg : H11.Cfg) : Headers := [("content-length".b, "0".b), ("connection".b, "close".b)] ++ cfg.serverHeaders

/-- what the model's error path hard-codes is what the source says: the states in which the hinted response is sent,
    its fixed headers, the EndOfMessage after it, and the class the `except` around `next_event()` names -/
theorem h1_error_guard : C04Sites.h11ErrorStates = ["IDLE", "SEND_RESPONSE"] ∧
    C04Sites.h11ErrorHeaders = [("content-length", "0"), ("connection", "close")] ∧ C04Sites.h11ErrorSendsEom = true ∧
    C04Sites.h11NextEvent = ["h11.RemoteProtocolError"] ∧ C04Sites.h11SendEvent = ["h11.LocalProtocolError"] := by decide

/-- the guard under which `_handle_events` ignores a RemoteProtocolError, extracted as a function of its atoms, is
    `stream is not None and request_complete` and nothing else (in particular it does not look at h11's writer) -/
theorem h1_error_ignore_guard (streamLive requestComplete : Bool) (our their : Nat) :
    Guards.h11ErrorIgnored streamLive requestComplete our their = (streamLive && requestComplete) := by
  rfl

/-- `next_event()` raised RemoteProtocolError with hint `h` while no complete request is being answered
    and h11's writer is IDLE or SEND_RESPONSE: the protocol does exactly two things with h11 — `send(Response h
    [content-length: 0, connection: close, <server headers>])` and `send(EndOfMessage)` — then sends `Closed`, and the
    reader leaves the loop.  Nothing else is emitted. -/
theorem h1_malformed (cfg : H11.Cfg) (st : H11.St) (o0 : List H11.Out) (hint : Nat)
    (hlive : (st.cur.isSome && st.requestComplete) = false)
    (hstate : (H11M.recvError st.lib).server = .idle ∨ (H11M.recvError st.lib).server = .sendResponse) :
    H11.onLibEvBody cfg st o0 (H11.LibEv.protoError hint) =
      some ({ (H11.libSend (H11.libSend { st with lib := H11M.recvError st.lib } (H11.LibSend.response hint (errorHeaders cfg))).1 H11.LibSend.eom).1 with pc := .idle },
            o0 ++ ((H11.libSend { st with lib := H11M.recvError st.lib } (H11.LibSend.response hint (errorHeaders cfg))).2.1 ++
                   (H11.libSend (H11.libSend { st with lib := H11M.recvError st.lib } (H11.LibSend.response hint (errorHeaders cfg))).1 H11.LibSend.eom).2.1) ++ [H11.Out.upClosed]) := by
  have hign : H11.errIgnored { st with lib := H11M.recvError st.lib } = false := by
    rw [H11.errIgnored_eq h1_error_ignore_guard]; exact hlive
  simp only [H11.onLibEvBody, hign, errorHeaders]
  rcases hstate with h | h <;> simp [h]

/-- a call into h11 starts no application and creates no stream -/
theorem libSend_keeps (st : H11.St) (e : H11.LibSend) :
    (H11.libSend st e).1.spawns = st.spawns ∧ (H11.libSend st e).1.objs = st.objs ∧ (H11.libSend st e).1.cur = st.cur := by
  cases e <;> simp only [H11.libSend] <;> split <;> exact ⟨rfl, rfl, rfl⟩

/-- … so the malformed input starts no application: the spawn counter and the stream objects are what they were -/
theorem h1_malformed_no_app (cfg : H11.Cfg) (st st' : H11.St) (o0 o : List H11.Out) (hint : Nat)
    (hlive : (st.cur.isSome && st.requestComplete) = false)
    (hstate : (H11M.recvError st.lib).server = .idle ∨ (H11M.recvError st.lib).server = .sendResponse)
    (h : H11.onLibEvBody cfg st o0 (H11.LibEv.protoError hint) = some (st', o)) : st'.spawns = st.spawns ∧ st'.objs = st.objs := by
  rw [h1_malformed cfg st o0 hint hlive hstate] at h
  simp only [Option.some.injEq, Prod.mk.injEq] at h
  obtain ⟨h1, _⟩ := h
  subst h1
  have a := libSend_keeps { st with lib := H11M.recvError st.lib } (H11.LibSend.response hint (errorHeaders cfg))
  have b := libSend_keeps (H11.libSend { st with lib := H11M.recvError st.lib } (H11.LibSend.response hint (errorHeaders cfg))).1 .eom
  exact ⟨by simp [b.1, a.1], by simp [b.2.1, a.2.1]⟩

/-- in any other writer state nothing is sent, only `Closed` -/
theorem h1_malformed_other_state (cfg : H11.Cfg) (st : H11.St) (o0 : List H11.Out) (hint : Nat)
    (hlive : (st.cur.isSome && st.requestComplete) = false)
    (hstate : (H11M.recvError st.lib).server ≠ .idle ∧ (H11M.recvError st.lib).server ≠ .sendResponse) :
    H11.onLibEvBody cfg st o0 (H11.LibEv.protoError hint) = some ({ st with lib := H11M.recvError st.lib, pc := .idle }, o0 ++ [H11.Out.upClosed]) := by
  have hign : H11.errIgnored { st with lib := H11M.recvError st.lib } = false := by
    rw [H11.errIgnored_eq h1_error_ignore_guard]; exact hlive
  simp [H11.onLibEvBody, hign, hstate.1, hstate.2]

/-- the RemoteProtocolError path never fails (it is the one event the reader handles in every state) -/
theorem h1_protocol_error_total (cfg : H11.Cfg) (st : H11.St) (o0 : List H11.Out) (hint : Nat) :
    (H11.onLibEvBody cfg st o0 (H11.LibEv.protoError hint)).isSome = true := by
  simp only [H11.onLibEvBody]
  split <;> simp

end H1

/-! ### HTTP/1: whole-flow totality (`total_h1`) -/

section H1Total
open HC HC.Stream HC.Proto HC.Proto.H11

/-- the two meanings of the model's `none` are separated.  In any state satisfying the invariant,
    when the reader step of `HC.Proto.H11` answers `none` (the driver's "rejected") then either the op was not enabled — the
    reader is not in its loop, the protocol object was replaced, or h11 / wsproto cannot produce this result in this state —
    or an exception leaves `_handle_events` at one of the sites `escapeEv` names. -/
theorem h1_rejected_classified (cfg : H11.Cfg) (st : H11.St) (g : Ws.Frag) (e : H11.LibEv) (hI : H11.Inv st g)
    (h : H11.onLibEv cfg st e = none) :
    st.pc ≠ .inLoop ∨ st.switched = true ∨ H11.libPossible cfg st g e = false ∨ (H11.escapeEv cfg st e).isSome = true :=
  H11.none_classified cfg st g e (fun i s hi => (hI.wsObj i s hi).1) h

/-- every place where the reader's own glue (`_handle_events`, `_check_protocol`, `_create_stream`,
    `H2CProtocolRequiredError.__init__`; extracted on every run with codec, operand and enclosing `except` clauses) turns
    client-controlled bytes into text is total: the codec is latin-1 (defined on every byte), or the exception is caught at the
    site, or the bytes are a request-line field / header name that h11's grammar restricts to ASCII.  In particular the VALUES of
    the headers hypercorn reads itself (`Connection`, `Upgrade`, `HTTP2-Settings`) may hold any byte 0x80–0xff.  A source change
    that decodes one of them with a partial codec outside a `try` makes this `decide` fail, and with it `total_h1`. -/
theorem h1_decode_sites_total : H11.decodeSitesTotal = true := by decide

/-- `Handshake.__init__` lower-cases each header name before it matches it
    (`WsGuards.handshakeName`, the normalisation as it stands in the loop, regenerated by the extractor on every run).  With
    `h11_pass_raw_headers` the names reach the stream as the client wrote them while `_create_stream` recognises the upgrade
    case-insensitively; were the names matched as given, `GET … Upgrade: websocket / connection: upgrade / sec-websocket-key`
    would leave `self.upgrade` unset and `is_valid()` would raise `AttributeError` out of the reader (seeded change C04-10).
    `total_h1` and `total_ws` depend on this (`ws_onRequest_ok`, `scan_facts`). -/
theorem ws_handshake_names_lowercased : Ws.Handshake.NamesLowered := by intro n; rfl

/-- no request — whatever bytes its header values hold — makes a decode site of the reader's glue raise -/
theorem h1_no_decode_escape (fn : String) (r : H11.ReqEv) : H11.decodeRaises fn r = false :=
  H11.decodeRaises_false h1_decode_sites_total fn r

/-- the sites are not vacuous: the three interpreted header values are among them, decoded with a total codec, uncaught -/
theorem h1_decode_sites_cover :
    (["connection", "upgrade", "http2-settings"].all (fun h =>
      C04Sites.h11ReaderDecodes.any (fun (s : H11.DecodeSite) => s.cls == "headerValue" && s.header == h && H11.codecTotal s.codec))) = true := by
  decide

/-- what the obligation excludes, on the model: were `Connection` split with wsproto's ASCII `split_comma_header` outside a `try`
    (site list below), a request with `Connection: k\xe9ep-alive` would make that site raise -/
example : let site : H11.DecodeSite := ("H11Protocol._create_stream", "headerValue", "connection", "ascii", [])
    H11.siteTotal site = false ∧
    H11.valueBad site { method := "GET".b, target := "/".b, headers := [("connection".b, [107, 233, 101, 112])], version := "1.1".b } = true := by
  decide

/-- From the initial state of a connection: for EVERY sequence of ops — results of `next_event()` /
    `H11WSConnection.next_event()` with the wsproto events they carry, `send` calls of ANY application on ANY stream object (valid
    or not, live or orphaned), `handle(Closed)`, shutdown, the deferred `StreamClosed` of a stream that answered by itself — such
    that each op is one the libraries and the scheduler can produce in the state reached (`LibWf`), no op lets an exception
    escape the connection handler (`escapeT = none`: not the LocalProtocolError `_send_h11_event` re-raises, not an exception out
    of `WSStream.handle`) and the model accepts every op (never "rejected"). -/
theorem total_h1 (cfg : H11.Cfg) (token : Bytes → Bytes) (ext : Option Bytes) (ops : List H11.OpT)
    (hwf : H11.LibWf cfg token ext {} none ops) : H11.NoEscape cfg token ext {} none ops :=
  H11.noEscape_of_inv cfg token ext h1_decode_sites_total ws_handshake_names_lowercased ops {} none H11.inv_init hwf

/-- … and from any state satisfying the invariant -/
theorem total_h1_from (cfg : H11.Cfg) (token : Bytes → Bytes) (ext : Option Bytes) (ops : List H11.OpT) (st : H11.St) (g : Ws.Frag)
    (hI : H11.Inv st g) (hwf : H11.LibWf cfg token ext st g ops) : H11.NoEscape cfg token ext st g ops :=
  H11.noEscape_of_inv cfg token ext h1_decode_sites_total ws_handshake_names_lowercased ops st g hI hwf

/-- one op: enabled ⇒ nothing escapes, the model accepts it, the invariant is kept -/
theorem total_h1_step (cfg : H11.Cfg) (token : Bytes → Bytes) (ext : Option Bytes) (st : H11.St) (g : Ws.Frag) (o : H11.OpT)
    (hI : H11.Inv st g) (hen : H11.enabled cfg st g o = true) :
    H11.escapeT cfg st o = none ∧ ∃ r, H11.stepT cfg token ext st o = some r ∧ H11.Inv r.1 (H11.ghostT g o) :=
  H11.step_ok cfg token ext st g o hI hen h1_decode_sites_total ws_handshake_names_lowercased

/-- in the driver's terms: a LibWf run is never "rejected" -/
theorem total_h1_never_rejected (cfg : H11.Cfg) (token : Bytes → Bytes) (ext : Option Bytes) (ops : List H11.OpT)
    (hwf : H11.LibWf cfg token ext {} none ops) : (H11.runT cfg token ext {} ops).isSome = true :=
  H11.runT_some_of_noEscape cfg token ext ops {} none (total_h1 cfg token ext ops hwf)

/-- the executable form of LibWf (evaluated by the driver on every tapped session) implies the hypothesis of `total_h1` -/
theorem total_h1_of_libWfB (cfg : H11.Cfg) (token : Bytes → Bytes) (ext : Option Bytes) (ops : List H11.OpT)
    (h : H11.libWfB cfg token ext {} none ops = true) : H11.NoEscape cfg token ext {} none ops :=
  total_h1 cfg token ext ops (H11.libWfB_sound cfg token ext ops {} none h)

-- the hypothesis is satisfiable: a request with `Expect: 100-continue` and a body, its response, then (keep-alive) a WebSocket
-- handshake, a fragmented text message with a ping in between, the client's close and `handle(Closed)`
example :
    let req : H11.ReqEv := {
      method := "POST".b, target := "/a".b, version := "1.1".b,
      headers := [("host".b, "x".b), ("expect".b, "100-continue".b), ("content-length".b, "1".b)],
      rawHeaders := [("Host".b, "x".b), ("Expect".b, "100-continue".b), ("Content-Length".b, "1".b)] }
    let wsreq : H11.ReqEv := {
      method := "GET".b, target := "/ws".b, version := "1.1".b,
      headers := [("host".b, "x".b), ("upgrade".b, "websocket".b), ("connection".b, "Upgrade".b), ("sec-websocket-key".b, "k".b), ("sec-websocket-version".b, "13".b)],
      rawHeaders := [("Host".b, "x".b), ("Upgrade".b, "websocket".b), ("Connection".b, "Upgrade".b), ("Sec-WebSocket-Key".b, "k".b), ("Sec-WebSocket-Version".b, "13".b)] }
    let ops : List H11.OpT := [.op .begin, .op (.ev (.request req)), .op (.ev (.data [1])), .op (.ev .eom), .op (.ev .paused),
      .op (.sendHttp 0 (some (.start (some 200) (some []) false))), .op (.sendHttp 0 (some (.body none false))),
      .op (.ev (.request wsreq)), .op (.ev .needData),
      .op (.sendWs 1 (some (.accept none []))), .op .begin,
      .op (.ev (.wsData [] [.message (.text ['a']) false, .ping [], .message (.text ['b']) true])), .op (.ev .needData),
      .op .begin, .op (.ev (.wsData [] [.close 1000])), .op (.ev .needData), .op .closed, .op (.sendWs 1 none), .deferredClose]
    H11.libWfB { keepAliveMax := 10 } (fun _ => []) none {} none ops = true := by
  decide +kernel

-- … and it excludes what the libraries cannot do: no second `Request` while the first is unanswered, no `h11.Data` on a
-- WebSocket connection, no BytesMessage fragment inside a text message
example :
    let req : H11.ReqEv := {
      method := "GET".b, target := "/a".b, version := "1.1".b, headers := [("host".b, "x".b)], rawHeaders := [("Host".b, "x".b)] }
    H11.libWfB { keepAliveMax := 10 } (fun _ => []) none {} none [.op .begin, .op (.ev (.request req)), .op (.ev (.request req))] = false := by
  decide

end H1Total

/-! ### WebSocket: `WSStream.handle` never raises (`total_ws`) -/

section WsTotal
open HC HC.Stream HC.Stream.Ws

/-- the ops of one WSStream: data from the protocol (with the events wsproto yields for it), `StreamClosed`, and an application
    message — `raisedAt` names the stream event at which the protocol-level send raised, if one did -/
inductive WsOp where
  | data (evs : List WsEv)
  | streamClosed
  | app (m : Option Msg) (raisedAt : Option Ws.Ev)
deriving Repr, DecidableEq

/-- new state and the exception (if any) that left `handle` -/
def wsStep (token : Bytes → Bytes) (ext : Option Bytes) (s : S) : WsOp → S × Option PyErr
  | .data evs => ((handle s (.data evs)).1, (handle s (.data evs)).2.2.2)
  | .streamClosed => ((handle s .streamClosed).1, (handle s .streamClosed).2.2.2)
  | .app m none => ((appSend token ext s m).1, none)
  | .app m (some e) => (stateAtRaise m s (appSend token ext s m).1 (some e), none)

/-- LibWf for wsproto: the events handed over with data are allowed by the library's reassembly state (none at all while the
    stream does not consult its wsproto connection) -/
def wsEnabled (g : Frag) (s : S) : WsOp → Bool
  | .data evs => dataOk g s evs
  | _ => true

def wsGhost (g : Frag) : WsOp → Frag
  | .data evs => evsNext g evs
  | _ => g

def WsLibWf (token : Bytes → Bytes) (ext : Option Bytes) : S → Frag → List WsOp → Prop
  | _, _, [] => True
  | s, g, o :: os => wsEnabled g s o = true ∧ WsLibWf token ext (wsStep token ext s o).1 (wsGhost g o) os

def WsNoError (token : Bytes → Bytes) (ext : Option Bytes) : S → Frag → List WsOp → Prop
  | _, _, [] => True
  | s, g, o :: os => (wsStep token ext s o).2 = none ∧ WsNoError token ext (wsStep token ext s o).1 (wsGhost g o) os

/-- From any stream state with a connection object once accepted and a buffer in step with the library): for EVERY
    sequence of wsproto events (any kinds, fragmentation, control frames, closes, parse failures — as far as the library's
    reassembly state allows), application messages (valid or not, answered by a raising protocol or not) and `StreamClosed`,
    `WSStream.handle` never raises -/
theorem total_ws_from (token : Bytes → Bytes) (ext : Option Bytes) : ∀ (ops : List WsOp) (s : S) (g : Frag),
    Ok s → BufRel g s.buffer → WsLibWf token ext s g ops → WsNoError token ext s g ops := by
  intro ops
  induction ops with
  | nil => intro s g _ _ _; trivial
  | cons o os ih =>
    intro s g hok hrel hwf
    obtain ⟨hen, hrest⟩ := hwf
    cases o with
    | data evs =>
      have H := handle_data_total s g evs hok hrel hen
      exact ⟨H.1, ih _ _ H.2.1 H.2.2.1 hrest⟩
    | streamClosed =>
      have H := handle_closed_total s
      refine ⟨H.1, ih _ _ (fun h => ?_) (by simp only [wsStep, wsGhost]; rw [H.2.2.2.2.1]; exact hrel) hrest⟩
      simp only [wsStep] at h ⊢
      rw [H.2.2.2.1]; exact hok (by rw [← H.2.2.1]; exact h)
    | app m at' =>
      cases at' with
      | none =>
        have H := appSend_keeps token ext s m hok
        exact ⟨rfl, ih _ _ H.2.1 (by simp only [wsStep, wsGhost]; rw [H.1]; exact hrel) hrest⟩
      | some e =>
        have H := stateAtRaise_keeps token ext s m (some e) hok
        exact ⟨rfl, ih _ _ H.2.1 (by simp only [wsStep, wsGhost]; rw [H.1]; exact hrel) hrest⟩

/-- the stream `handle(Request)` builds satisfies the hypotheses of `total_ws_from` -/
theorem ws_onRequest_init (maxLen : Nat) (version : String) (hdrs : Headers) (ok ping : Bool) (s : S) (puts : List AppMsg) (evs : List Ws.Ev)
    (h : onRequest maxLen version hdrs ok ping = .ok (s, puts, evs)) : Ok s ∧ BufRel none s.buffer := by
  obtain ⟨h', he, ha, _, _⟩ := HC.Proto.H11.scan_facts HC.Props.C04.ws_handshake_names_lowercased hdrs { version := version }
  unfold onRequest Handshake.ofRequest at h
  simp only [he, bind, Except.bind, pure, Except.pure] at h
  -- however the request is answered, the stream starts from `h'` (not accepted) with an empty buffer
  have fin : ∀ {s' : S} {r : List AppMsg × List Ws.Ev}, (Except.ok (s', r) : Except PyErr _) = .ok (s, puts, evs) →
      s'.hs = h' → s'.buffer = { maxLength := maxLen } → Ok s ∧ BufRel none s.buffer := by
    intro s' r e h1 h2
    cases e
    exact ⟨fun hx => by rw [h1, (ha : h'.accepted = false)] at hx; exact Bool.noConfusion hx, h2 ▸ bufRel_fresh _⟩
  split at h
  · exact fin h rfl rfl
  · split at h
    · cases h
    · split at h <;> exact fin h rfl rfl

/-- … and so for the stream of any request -/
theorem total_ws (token : Bytes → Bytes) (ext : Option Bytes) (maxLen : Nat) (version : String) (hdrs : Headers) (ok ping : Bool)
    (s : S) (puts : List AppMsg) (evs : List Ws.Ev) (h : onRequest maxLen version hdrs ok ping = .ok (s, puts, evs))
    (ops : List WsOp) (hwf : WsLibWf token ext s none ops) : WsNoError token ext s none ops :=
  have hinit := ws_onRequest_init maxLen version hdrs ok ping s puts evs h
  total_ws_from token ext ops s none hinit.1 hinit.2 hwf

/-- without the library restriction the statement is false: a BytesMessage fragment inside a text message (which wsproto never
    yields) makes `WebsocketBuffer.extend` raise TypeError — the hypothesis is needed, not decoration -/
theorem total_ws_needs_libWf :
    (handle { hs := { version := "1.1", accepted := true }, conn := some .open, buffer := { maxLength := 10 }, st := .connected }
      (.data [.message (.text ['a']) false, .message (.bytes [1]) true])).2.2.2 = some .typeError := by decide

end WsTotal

/-! ### source guards: orderings in the source that the one-op models cannot see -/

/-- `H2Protocol.initiate` (h2c upgrade): the send task is spawned before the upgrade request is handed to a stream, so a stream
    that answers by itself (404 / 400) and waits for its response to be written is not waiting for a task that does not exist
    yet (F82: the reader stayed inside `initiate` for ever); and the stream is not looked up with `[]` afterwards (it may have
    closed itself).  Liveness itself is judged by the `connection_stuck` monitor; this guard re-opens when the order changes. -/
theorem h2_initiate_guard : C04Sites.h2InitiateSpawnFirst = true ∧ C04Sites.h2InitiateStreamLookupGuarded = true := by decide

/-- every answer WSStream gives to a handshake changes the state before its first `await` — the 500 of a finished application
    (F98), the head of a rejection (F99), `websocket.close` → 403, `websocket.accept` → 101 — so that bytes arriving whilst the
    answer is being written are not answered with a second response (`handle` answers early data in HANDSHAKE only).  The one-op
    model cannot see these windows (they are inside one op); `Ws.appSend` (HTTPCLOSED with the 500) and `Ws.stateAtRaise` follow
    this order, which is read off the source on every run: moving an assignment behind its send re-opens this obligation. -/
theorem ws_answer_order_guard : C04Sites.wsExit500StateFirst = true ∧ C04Sites.wsRejectionStateBeforeHead = true ∧
    C04Sites.wsClose403StateFirst = true ∧ C04Sites.wsAcceptStateFirst = true := by decide

/-- the one place where WSStream answers early data is the state the source names (F40): the Ws model's branch is tied
    to it -/
theorem ws_early_data_guard : C04Sites.wsEarlyDataAnsweredIn = "HANDSHAKE" ∧ C04Sites.wsSendEvent = ["wsproto.LocalProtocolError"] ∧
    C04Sites.wsBufferExtend = ["FrameTooLargeError"] ∧ C04Sites.utilsHostDecode = ["UnicodeDecodeError"] ∧
    C04Sites.wsHandshakeSplit = ["UnicodeDecodeError"] := by decide

end HC.Props.C04
