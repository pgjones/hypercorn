import HC.Worker.Invariants
import HC.Worker.BlockedWrite
/-!
# C15 — Graceful shutdown is orderly and bounded

The property theorems and the runs that refuted earlier versions of the code.  Model: `HC/Worker/Run.lean` (timed; `tick`
never jumps over a deadline and is disabled while `worker_serve` has an action to take) and, for a handler held in a blocked
transport write, which is not a state of that model, `HC/Worker/BlockedWrite.lean`; invariants: `HC/Worker/Invariants.lean`.

All theorems hold for **every operation list** — any number and mix of connections (idle, mid-head, requests that
finish early, late or never, HTTP/2 with any number of open streams, WebSockets), any trigger instant and either
trigger source (`Op.trigger`, or `context.mark_request()` exceeding `max_requests`), every lifespan script, every
time-out value.  `t` is the instant `context.terminated` was set.  `Runtime.asyncioBeforeFixes` / `Runtime.trioBeforeFixes` /
`Runtime.asyncioBeforeF32` are kept for the record: the runs that refuted the full statements before the `fix:` commits
4c08dc8 (F18), b7ab22b (F31) and 5d167c5 (F32) are theorems about them.  A clause that depends on a runtime flag appears as
`…_of_flags` (arbitrary runtime, hypotheses on the flags) and as the full statement for the current runtimes; the others
hold for every runtime as they stand.
-/
namespace HC.Props.C15
open HC HC.Worker

/-- the two worker classes as the code is now (the flags are re-measured on every run of the check) -/
def Current (rt : Runtime) : Prop := rt = Runtime.asyncio ∨ rt = Runtime.trio

/-! ### bounded -/

/-- `worker_serve` is back within `graceful_timeout + shutdown_timeout` of the trigger on every runtime on which it does
    not sit in a `Server.wait_closed()` that waits for connections before the bounded wait for the handlers: when it has
    returned (or raised) it did so by then, and as long as it has not the clock cannot be past that instant -/
theorem bounded_of_flags (rt : Runtime) (cfg : Cfg) (script : List LAct) (cap : Nat) (ops : List Op) (s : W)
    (hnb : rt.waitClosedBlocksOnConnections = false)
    (hr : run (W.init rt cfg script cap) ops = some s) (t : Nat) (ht : s.g.triggerTime = some t) :
    (∀ r, s.g.returnTime = some r → r ≤ t + cfg.gracefulTimeout + cfg.shutdownTimeout) ∧
    (s.phase.terminal = false → s.now ≤ t + cfg.gracefulTimeout + cfg.shutdownTimeout) := by
  obtain ⟨hR, hrt, hcfg, _⟩ := reach_run rt cfg script cap ops s hr
  have hnb' : s.rt.waitClosedBlocksOnConnections = false := by rw [hrt]; exact hnb
  exact ⟨fun r hret => by rw [← hcfg]; exact hR.T.t7 hnb' r t hret ht,
    fun hnt => by rw [← hcfg]; exact invT_now_bound s hR.T hR.P hnb' hnt t ht⟩

/-- **`worker_serve` is back within `graceful_timeout + shutdown_timeout` of the trigger, however many connections are
    stuck** — both worker classes (asyncio: on every CPython, since 4c08dc8 `wait_closed()` is no longer awaited).
    *Scope of the model*: "stuck" = requests, streams and WebSockets whose application does not finish; the model's handlers
    end when they are cancelled.  A handler held in a transport write its peer does not drain is not a state of this model,
    and on the code as it is such a handler does outlive the grace period on both workers (known finding F113, found by
    the noread_h1 scenarios of the correspondence run, which are judged by the monitors only). -/
theorem bounded (rt : Runtime) (hc : Current rt) (cfg : Cfg) (script : List LAct) (cap : Nat) (ops : List Op) (s : W)
    (hr : run (W.init rt cfg script cap) ops = some s) (t : Nat) (ht : s.g.triggerTime = some t) :
    (∀ r, s.g.returnTime = some r → r ≤ t + cfg.gracefulTimeout + cfg.shutdownTimeout) ∧
    (s.phase.terminal = false → s.now ≤ t + cfg.gracefulTimeout + cfg.shutdownTimeout) :=
  bounded_of_flags rt cfg script cap ops s (by rcases hc with rfl | rfl <;> rfl) hr t ht

/-- **`bounded` does not extend to a handler held in a blocked transport write, as the code is (known finding F113)**: on
    both worker classes such a handler, cancelled at the end of the grace period, is still there after any amount of time
    in which its peer neither reads nor leaves - `worker_serve`, which waits for the cancelled handlers, is not back -/
theorem blocked_write_outlives_grace (rt : Runtime) (hc : Current rt) (es : List BlockedWrite.Ev) (hs : BlockedWrite.Silent es) :
    BlockedWrite.run rt .writing (.cancel :: es) = .cancelledWaiting := by
  refine BlockedWrite.outlives_cancel rt ?_ es hs
  rcases hc with rfl | rfl <;> rfl

/-- … it ends when the peer leaves (what the correspondence runs observe when the harness's client closes), and a runtime
    that gave the connection up on cancellation would be rid of it at once -/
theorem blocked_write_released (rt : Runtime) (p : BlockedWrite.Phase) (es : List BlockedWrite.Ev) :
    BlockedWrite.run rt p (.peerLeaves :: es) = .over ∧
    (rt.blockedWriteOutlivesCancel = false → BlockedWrite.run rt .writing (.cancel :: es) = .over) :=
  ⟨BlockedWrite.released_by_peer rt p es, fun h => BlockedWrite.released_at_once rt h es⟩

-- non-vacuity: asyncio, cancelled, ten ticks: still waiting; then the peer leaves: over
example : BlockedWrite.run Runtime.asyncio .writing (.cancel :: List.replicate 10 .tick) = .cancelledWaiting ∧
    BlockedWrite.run Runtime.trio .writing (.cancel :: List.replicate 10 .tick ++ [.peerLeaves]) = .over := by decide

/-- the clock is never stuck short of the bound of `bounded`: at either deadline `worker_serve` has an action to take (the put cannot block
    because the queue bound is at least 2 and at most one message is still queued) — on runtimes on which a cancelled
    handler always finishes (`h2CancelDeadlocks = false`) -/
theorem deadline_forces_progress_of_flags (rt : Runtime) (cfg : Cfg) (script : List LAct) (cap : Nat) (ops : List Op) (s : W)
    (hcap : 2 ≤ cap) (hdl : rt.h2CancelDeadlocks = false) (hr : run (W.init rt cfg script cap) ops = some s) :
    (∀ since, s.phase = .draining since → since + cfg.gracefulTimeout ≤ s.now → s.srvStep.isSome = true) ∧
    (∀ since, s.phase = .lifespanShutdown since → since + cfg.shutdownTimeout ≤ s.now → s.srvStep.isSome = true) := by
  obtain ⟨hR, hrt, hcfg, hcapEq⟩ := reach_run rt cfg script cap ops s hr
  constructor
  · intro since hp hto
    -- at most the start-up message is queued
    have hq : s.life.queue.length < s.life.cap := by
      have := congrArg List.length hR.Q.q
      simp only [List.length_append, List.length_replicate, hR.P.drainNoPut hp] at this
      have := hR.P.putsLe.1
      omega
    have hsls : ∀ x : W, x.life = s.life → x.startLifespanShutdown.isSome = true := by
      intro x hx
      unfold W.startLifespanShutdown
      rcases put_cases x.life .shutdown with ⟨h, _⟩ | ⟨h, _⟩ | ⟨h, _, _, h3⟩ | ⟨h, _⟩ <;> simp only [h] <;> try rfl
      rw [hx] at h3; omega
    simp only [W.srvStep, hp]
    split
    · exact hsls s rfl
    · -- the grace period is over and, by `hdl`, the guard for handlers that never finish is off: the rest are cancelled
      rw [hcfg]; simp only [hto, if_true, hrt, hdl, Bool.false_and, Bool.false_eq_true, if_false]; exact hsls s.cancelAll rfl
  · intro since hp hto
    simp only [W.srvStep, hp]
    split
    · rfl
    · rw [hcfg]; simp [hto]

/-- **at either deadline `worker_serve` has an action to take, whatever is still open — both worker classes, HTTP/2 streams
    in progress on asyncio included** (since the F32 repair a cancelled handler always finishes: the HTTP/2 send task releases
    every waiting sender when it ends).  With `bounded` (the clock cannot pass trigger + graceful_timeout + shutdown_timeout
    while `worker_serve` has not returned, and `tick` is disabled while `worker_serve` has an action to take): the return is
    forced, not merely permitted -/
theorem deadline_forces_progress (rt : Runtime) (hc : Current rt) (cfg : Cfg) (script : List LAct) (cap : Nat) (ops : List Op)
    (s : W) (hcap : 2 ≤ cap) (hr : run (W.init rt cfg script cap) ops = some s) :
    (∀ since, s.phase = .draining since → since + cfg.gracefulTimeout ≤ s.now → s.srvStep.isSome = true) ∧
    (∀ since, s.phase = .lifespanShutdown since → since + cfg.shutdownTimeout ≤ s.now → s.srvStep.isSome = true) :=
  deadline_forces_progress_of_flags rt cfg script cap ops s hcap (by rcases hc with rfl | rfl <;> rfl) hr

/-- the F18 run: one request that never finishes -/
def f18Script : List LAct := [.recv, .sendStartupComplete, .recv, .sendShutdownComplete, .ret]
def f18Ops (wait : Nat) : List Op :=
  [.app, .srv, .app, .srv, .connect .h1, .request 0 none, .trigger, .srv, .tick wait]
def cfg0 : Cfg := { startupTimeout := 4, shutdownTimeout := 4, gracefulTimeout := 4, maxRequests := none }

/-- history (F18, fixed by 4c08dc8): before the fix, on CPython ≥ 3.12.1, an arbitrary long time after the trigger
    `worker_serve` was still inside `server.wait_closed()` -/
theorem f18_run_before_fix :
    (run (W.init .asyncioBeforeFixes cfg0 f18Script 10) (f18Ops 1000)).map (fun s => decide
      (s.phase = .closing ∧ s.g.triggerTime = some 0 ∧ s.now = 1000 ∧ s.g.returnTime = none ∧ s.conns.length = 1)) =
      some true := by decide

/-- history: `bounded` was false while `worker_serve` awaited a `wait_closed()` that waits for connections
    (`Runtime.asyncioBeforeFixes`) — the flag hypothesis of `bounded_of_flags` is needed -/
theorem bounded_fails_when_wait_closed_blocks :
    ¬ (∀ (cfg : Cfg) (script : List LAct) (cap : Nat) (ops : List Op) (s : W) (t : Nat),
        run (W.init .asyncioBeforeFixes cfg script cap) ops = some s → s.g.triggerTime = some t → s.phase.terminal = false →
        s.now ≤ t + cfg.gracefulTimeout + cfg.shutdownTimeout) := by
  intro h
  obtain ⟨s, hr, hw⟩ := Option.map_eq_some_iff.mp f18_run_before_fix
  obtain ⟨h1, h2, h3, _, _⟩ := of_decide_eq_true hw
  have := h _ _ _ _ s 0 hr h2 (by simp [h1, Phase.terminal])
  simp [h3, cfg0] at this

/-- the F32 run: an HTTP/2 connection with a stream still in progress when the grace period ends -/
def f32Ops : List Op := [.app, .srv, .app, .srv, .connect .h2, .newStream 0, .trigger, .srv, .tick 4]

/-- history (F32, fixed): before the repair, on asyncio, with an HTTP/2 stream still in progress when the grace period ended
    `worker_serve` had no action to take and the clock could not advance: it never returned -/
theorem h2_cancel_deadlock_before_fix :
    (run (W.init .asyncioBeforeF32 cfg0 f18Script 10) f32Ops).map (fun s => decide
      (s.phase = .draining 0 ∧ s.now = 4 ∧ s.srvStep.isNone = true ∧ (step s (.tick 1)).isNone = true)) = some true := by decide

/-- history: `deadline_forces_progress` was false for `Runtime.asyncioBeforeF32` — the `h2CancelDeadlocks` hypothesis of
    `deadline_forces_progress_of_flags` is needed -/
theorem deadline_forces_progress_failed_before_fix :
    ¬ (∀ (cfg : Cfg) (script : List LAct) (cap : Nat) (ops : List Op) (s : W) (since : Nat), 2 ≤ cap →
        run (W.init .asyncioBeforeF32 cfg script cap) ops = some s → s.phase = .draining since →
        since + cfg.gracefulTimeout ≤ s.now → s.srvStep.isSome = true) := by
  intro h
  obtain ⟨s, hr, hw⟩ := Option.map_eq_some_iff.mp h2_cancel_deadlock_before_fix
  obtain ⟨h1, h2, h3, _⟩ := of_decide_eq_true hw
  have := h cfg0 f18Script 10 f32Ops s 0 (by decide) hr h1 (by simp [h2, cfg0])
  simp [Option.isNone_iff_eq_none.mp h3] at this

-- the F32 run on the code as it is now: the handler is cancelled at trigger + graceful_timeout, the peer is told to go away,
-- lifespan shutdown follows and `worker_serve` returns at that instant - on both workers (trio: without the GOAWAY)
example : (run (W.init .asyncio cfg0 f18Script 10) (f32Ops ++ [.srv, .app, .srv])).map
    (fun s => decide (s.phase = .done ∧ s.g.returnTime = some 4 ∧ s.hist.cancelled = [(0, .h2 1 true, 4)] ∧
      s.log.contains (.goaway 0) = true)) = some true := by decide +kernel
example : (run (W.init .trio cfg0 f18Script 10) (f32Ops ++ [.srv, .app, .app, .srv])).map
    (fun s => decide (s.phase = .done ∧ s.g.returnTime = some 4 ∧ s.hist.cancelled = [(0, .h2 1 true, 4)] ∧
      s.log.contains (.goaway 0) = false)) = some true := by decide +kernel

-- the F18 run on the code as it is now: both workers return at exactly `trigger + graceful_timeout`
example : (run (W.init .asyncio cfg0 f18Script 10)
    [.app, .srv, .app, .srv, .connect .h1, .request 0 none, .trigger, .srv, .tick 4, .srv, .app, .srv]).map
    (fun s => decide (s.phase = .done ∧ s.g.returnTime = some 4 ∧ s.hist.cancelled.length = 1)) = some true := by decide +kernel
example : (run (W.init .trio cfg0 f18Script 10)
    [.app, .srv, .app, .srv, .connect .h1, .request 0 none, .trigger, .srv, .tick 4, .srv, .app, .app, .srv]).map
    (fun s => decide (s.phase = .done ∧ s.g.returnTime = some 4 ∧ s.hist.cancelled.length = 1)) = some true := by decide +kernel
-- and the clock cannot run past the deadline: `tick 5` is refused
example : (run (W.init .trio cfg0 f18Script 10)
    [.app, .srv, .app, .srv, .connect .h1, .request 0 none, .trigger, .srv, .tick 5]).isNone = true := by decide
example : (run (W.init .asyncio cfg0 f18Script 10) (f18Ops 5)).isNone = true := by decide

/-! ### orderly -/

/-- **once `terminated` is set: the listeners are closed, no connection with an armed idle timer is left (idle and
    mid-head HTTP/1 connections, HTTP/2 connections that became idle), and no connection was accepted and no
    application instance was started after that instant** -/
theorem orderly (rt : Runtime) (cfg : Cfg) (script : List LAct) (cap : Nat) (ops : List Op) (s : W)
    (hr : run (W.init rt cfg script cap) ops = some s) :
    (s.terminated = true → s.listening = false ∧ ∀ c ∈ s.conns, c.phase.hasIdleTimer = false) ∧
    s.g.acceptsAfterTerm = 0 ∧ s.g.scopesAfterTerm = 0 := by
  obtain ⟨hR, _⟩ := reach_run rt cfg script cap ops s hr
  exact ⟨fun ht => ⟨invP_terminated_notListening s hR.P ht, hR.O.o1 ht⟩, hR.O.o2.1, hR.O.o2.2⟩

/-- every idle connection is closed at the instant of the trigger — on a runtime where a fresh prior-knowledge
    HTTP/2 connection has its idle timer -/
theorem idle_closed_of_flags (rt : Runtime) (cfg : Cfg) (script : List LAct) (cap : Nat) (ops : List Op) (s : W)
    (hf : rt.h2PriorFreshIdleTimer = true)
    (hr : run (W.init rt cfg script cap) ops = some s) (ht : s.terminated = true) :
    ∀ c ∈ s.conns, c.phase.isIdle = false := by
  obtain ⟨hR, hrt, _, _⟩ := reach_run rt cfg script cap ops s hr
  intro c hc
  have h1 := hR.O.o1 ht c hc
  have h3 := hR.O.o3 (by rw [hrt]; exact hf) c hc
  cases hp : c.phase with
  | idle => simp [hp, ConnPhase.hasIdleTimer] at h1
  | midHead => simp [hp, ConnPhase.hasIdleTimer] at h1
  | inRequest d => rfl
  | ws => rfl
  | h2 k t =>
    cases k with
    | zero =>
      have := h3 t hp
      subst this
      simp [hp, ConnPhase.hasIdleTimer] at h1
    | succ k => rfl

/-- **every idle connection (HTTP/1 between requests or mid-head, HTTP/2 without a stream in progress — fresh or not) is
    closed at the instant of the trigger** — both worker classes -/
theorem idle_closed (rt : Runtime) (hc : Current rt) (cfg : Cfg) (script : List LAct) (cap : Nat) (ops : List Op) (s : W)
    (hr : run (W.init rt cfg script cap) ops = some s) (ht : s.terminated = true) :
    ∀ c ∈ s.conns, c.phase.isIdle = false :=
  idle_closed_of_flags rt cfg script cap ops s (by rcases hc with rfl | rfl <;> rfl) hr ht

/-- history (F31, fixed by b7ab22b): before the fix a prior-knowledge HTTP/2 connection that had not had a stream yet had no
    idle timer, so it was idle and yet survived the trigger until the grace period ended -/
theorem idle_closed_failed_before_fix :
    ¬ (∀ (cfg : Cfg) (script : List LAct) (cap : Nat) (ops : List Op) (s : W),
        run (W.init .trioBeforeFixes cfg script cap) ops = some s → s.terminated = true →
        ∀ c ∈ s.conns, c.phase.isIdle = false) := by
  intro h
  have hw : (run (W.init .trioBeforeFixes cfg0 f18Script 10) [.app, .srv, .app, .srv, .connect .h2, .trigger, .srv, .tick 3]).map
      (fun s => decide (s.terminated = true ∧ s.conns.map (·.phase) = [.h2 0 false])) = some true := by decide
  obtain ⟨s, hr, hw⟩ := Option.map_eq_some_iff.mp hw
  obtain ⟨h1, h2⟩ := of_decide_eq_true hw
  cases hc : s.conns with
  | nil => simp [hc] at h2
  | cons c rest =>
    simp only [hc, List.map_cons, List.cons.injEq] at h2
    have := h _ _ _ _ s hr h1 c (by simp [hc])
    simp [h2.1, ConnPhase.isIdle] at this

-- now: the fresh HTTP/2 connection is closed with the trigger, on both workers
example : (run (W.init .trio cfg0 f18Script 10) [.app, .srv, .app, .srv, .connect .h2, .trigger, .srv]).map
    (fun s => decide (s.terminated = true ∧ s.conns = [] ∧ s.hist.closedIdle = [0])) = some true := by decide
example : (run (W.init .asyncio cfg0 f18Script 10) [.app, .srv, .app, .srv, .connect .h2, .trigger, .srv]).map
    (fun s => decide (s.terminated = true ∧ s.conns = [] ∧ s.hist.closedIdle = [0])) = some true := by decide

/-- after the trigger a connection attempt is not accepted, a request head on a surviving connection starts no
    application, a new HTTP/2 stream is refused without an application instance, and the end of the last stream of an
    HTTP/2 connection sends GOAWAY and closes it -/
theorem after_trigger_refusals (s : W) (ht : s.terminated = true) :
    (∀ k, step s (.connect k) = none) ∧ (∀ i rem, step s (.request i rem) = none) ∧
    (∀ i s', step s (.newStream i) = some s' → s'.g.scopes = s.g.scopes ∧ s'.g.refusedStreams = s.g.refusedStreams + 1 ∧
      s'.conns = s.conns) ∧
    (∀ i c t s', s.findConn i = some c → c.phase = .h2 1 t → step s (.progress i) = some s' →
      s'.hist.goaway = s.hist.goaway ++ [i] ∧ s'.conns = s.dropConn i) := by
  refine ⟨?_, ?_, ?_, ?_⟩
  · intro k; simp [step, ht]
  · intro i rem; simp only [step, ht]; split <;> simp
  · intro i s' hs
    cases step_rel s s' _ hs with
    | streamRefused => exact ⟨rfl, rfl, rfl⟩
    | streamNew i c k t hc hp hw hnt => simp [ht] at hnt
  · intro i c t s' hc hp hs
    cases step_rel s s' _ hs with
    | lastStreamGoaway => exact ⟨rfl, rfl⟩
    | lastStreamIdle i c' t' hc' hp' hnt => simp [ht] at hnt
    | streamDone i c' k t' hc' hp' => rw [hc] at hc'; cases hc'; rw [hp] at hp'; cases hp'
    | wsDone i c' hc' hp' => rw [hc] at hc'; cases hc'; rw [hp] at hp'; cases hp'

/-! ### a keep-alive connection is not recycled once `terminated` is set -/

/-- **the model's decision when a response has been delivered is the code's `_maybe_recycle` guard**
    (`HC.Extracted.Guards.h11Recycle`, regenerated from `protocol/h11.py` on every run) evaluated where the model takes the
    step: the protocol is not closed and both h11 sides are DONE (a complete keep-alive exchange).  The connection goes
    back to idle iff the guard holds; otherwise it is closed.  A guard that consults anything but `context.terminated`
    (e.g. `context.terminate`, which only `max_requests` sets) is not translated by the extractor, and one that is
    translated differently breaks this proof -/
theorem finish_follows_recycle_guard (s s' : W) (i : Nat) (hs : step s (.finish i) = some s') :
    s'.conns = (if Extracted.Guards.h11Recycle false s.terminated true true then s.setPhase i .idle else s.dropConn i) := by
  cases step_rel s s' _ hs with
  | finish i c due hc hp hd => cases ht : s.terminated <;> simp [Extracted.Guards.h11Recycle]

/-- the guard itself: recycling needs `terminated` to be unset, whatever the other three atoms are -/
theorem recycle_guard_needs_not_terminated (closed ourDone theirDone : Bool) :
    Extracted.Guards.h11Recycle closed true ourDone theirDone = false := by
  cases closed <;> cases ourDone <;> cases theirDone <;> rfl

/-- **once `terminated` is set, the connection whose request finishes is closed — it is not there to take the request
    that was pipelined behind it (or that arrives later), and no application instance is started for such a request**
    (stated for the state right after the `finish`; both trigger sources: `terminated` is set by the exit path of
    `worker_serve` whether `shutdown_trigger` returned or `context.terminate` was set by `mark_request`) -/
theorem not_recycled_after_trigger (s s' : W) (i : Nat) (ht : s.terminated = true) (hs : step s (.finish i) = some s') :
    s'.findConn i = none ∧ s'.terminated = true ∧ s'.g.scopes = s.g.scopes ∧ (∀ rem, step s' (.request i rem) = none) := by
  cases step_rel s s' _ hs with
  | finish i c due hc hp hd =>
    refine ⟨?_, ht, rfl, ?_⟩
    · simp only [ht, if_true, W.findConn]
      apply List.find?_eq_none.mpr
      intro x hx
      simpa using (mem_dropConn s i x hx).2
    · intro rem
      simp only [step, ht]
      split <;> simp

-- non-vacuity: two requests pipelined on one connection, the trigger while the first is in progress: the first is
-- delivered, the connection is closed, the second is never enabled, one application instance in all, `worker_serve`
-- returns at once (nothing left to wait for) — and without the trigger the same connection serves both
example : (run (W.init .asyncio cfg0 f18Script 10)
    [.app, .srv, .app, .srv, .connect .h1, .request 0 (some 2), .trigger, .srv, .tick 2, .finish 0]).map
    (fun s => decide (s.conns = [] ∧ s.hist.delivered = [(0, 2)] ∧ s.g.scopes = 1 ∧ (step s (.request 0 (some 0))).isNone = true)) =
    some true := by decide +kernel
example : (run (W.init .asyncio cfg0 f18Script 10)
    [.app, .srv, .app, .srv, .connect .h1, .request 0 (some 2), .tick 2, .finish 0, .request 0 (some 0), .finish 0]).map
    (fun s => decide (s.conns.map (·.phase) = [.idle] ∧ s.hist.delivered = [(0, 2), (0, 2)] ∧ s.g.scopes = 2)) = some true := by decide +kernel

/-! ### requests that finish within the grace period are delivered -/

/-- **a handler is cancelled only when the grace period is over, and a cancelled request was not due before that
    instant**: a request due before `trigger + graceful_timeout` is never cancelled -/
theorem in_grace_delivered (rt : Runtime) (cfg : Cfg) (script : List LAct) (cap : Nat) (ops : List Op) (s : W)
    (hr : run (W.init rt cfg script cap) ops = some s) (t : Nat) (ht : s.g.triggerTime = some t)
    (i at_ : Nat) (ph : ConnPhase) (hc : (i, ph, at_) ∈ s.hist.cancelled) :
    t + cfg.gracefulTimeout ≤ at_ ∧ ∀ due, ph = .inRequest (some due) → t + cfg.gracefulTimeout ≤ due := by
  obtain ⟨hR, _, hcfg, _⟩ := reach_run rt cfg script cap ops s hr
  have := hR.T.t2 _ hc t ht
  rw [hcfg] at this
  exact ⟨this.1, fun due hd => Nat.le_trans this.1 (this.2.2 due hd)⟩

/-- the clock never passes the instant a live request is due, and when it is due its response can be delivered:
    so a request due before the end of the grace period *is* delivered (it cannot be cancelled, by `in_grace_delivered`,
    and it cannot linger) -/
theorem due_request_finishes (rt : Runtime) (cfg : Cfg) (script : List LAct) (cap : Nat) (ops : List Op) (s : W)
    (hr : run (W.init rt cfg script cap) ops = some s) (c : Conn) (hc : c ∈ s.conns) (due : Nat)
    (hp : c.phase = .inRequest (some due)) :
    s.now ≤ due ∧ (due ≤ s.now → ∃ s', step s (.finish c.id) = some s' ∧ (c.id, s.now) ∈ s'.hist.delivered) := by
  obtain ⟨hR, _⟩ := reach_run rt cfg script cap ops s hr
  refine ⟨hR.T.t4 c hc due hp, ?_⟩
  intro hd
  have hfind := findConn_of_mem s hR.S c hc
  have hstep : step s (.finish c.id) = some
      { s with conns := if s.terminated then s.dropConn c.id else s.setPhase c.id .idle,
               hist := { s.hist with delivered := s.hist.delivered ++ [(c.id, s.now)] },
               log := s.log ++ [.delivered c.id] } := by
    simp only [step, hfind, hp, hd, if_true]
  exact ⟨_, hstep, by simp⟩

/-! ### then the lifespan shutdown -/

/-- **`lifespan.shutdown` is put only after the drain**: not before the trigger, with no handler alive, and — when a
    handler had to be cancelled — not before `trigger + graceful_timeout` -/
theorem then_lifespan (rt : Runtime) (cfg : Cfg) (script : List LAct) (cap : Nat) (ops : List Op) (s : W)
    (hr : run (W.init rt cfg script cap) ops = some s) (p : Nat) (hp : s.g.shutdownPutAt = some p) :
    ∃ t, s.g.triggerTime = some t ∧ t ≤ p ∧ p ≤ s.now ∧ (s.hist.cancelled ≠ [] → t + cfg.gracefulTimeout ≤ p) := by
  obtain ⟨hR, _, hcfg, _⟩ := reach_run rt cfg script cap ops s hr
  have h1 : s.g.shutdownPuts = 1 := by
    have := hR.P.putsLe.2
    by_cases h0 : s.g.shutdownPuts = 0
    · have := hR.T.t10 h0; simp [hp] at this
    · omega
  obtain ⟨_, y2, _⟩ := hR.Y.y h1
  obtain ⟨t, ht⟩ := Option.isSome_iff_exists.mp y2
  have := hR.T.t3 p hp t ht
  exact ⟨t, ht, this.1, this.2.1, by rw [← hcfg]; exact this.2.2⟩

-- non-vacuity: a short request is delivered, then the put, then the return; a long one is cancelled at the deadline
example : (run (W.init .trio cfg0 f18Script 10)
    [.app, .srv, .app, .srv, .connect .h1, .request 0 (some 2), .trigger, .srv, .tick 2, .finish 0, .srv, .app, .app, .srv]).map
    (fun s => decide (s.phase = .done ∧ s.hist.delivered = [(0, 2)] ∧ s.hist.cancelled = [] ∧ s.g.shutdownPutAt = some 2 ∧
      s.g.returnTime = some 2)) = some true := by decide +kernel
example : (run (W.init .trio { cfg0 with maxRequests := some 0 } f18Script 10)
    [.app, .srv, .app, .srv, .connect .h1, .request 0 (some 2), .srv]).map
    (fun s => decide (s.terminated = true ∧ s.g.triggerTime = some 0 ∧ s.conns.length = 1 ∧ s.g.scopes = 1)) = some true := by
  decide +kernel

end HC.Props.C15
