import HC.Proto.H11
import HC.Props.C06
import HC.Extracted.AppExit
import HC.Proto.H2Credit
import HC.Stream.WsExit
import HC.Proto.H2Abandon
import HC.Stream.WsLemmas
/-!
# C05 — application failures are contained and never yield a falsely complete response

`Http.appSend s none` / `Ws.appSend … none` is what `TaskGroup._handle` always does when the application returns,
raises or is cancelled (`finally: await send(None)`).  In order: that `try` statement as the extractor reads it off both
workers' `_handle`; a message the stream refuses (the exception is raised into the application, which then dies with it)
starts nothing, for the model and for the statement order of the source's REQUEST-state branches; the completion branch as
it stands in the source; a message h11 refused, then the application's failure; the same for WebSocket (a refused
`websocket.close`; every message sequence, then the application's death); HTTP/2: the reset of an abandoned response, the
receive window of the other streams, the reset does not wait for the peer's credit.
-/
namespace HC.Props.C05
open HC HC.Stream HC.Lib HC.Proto.H11 HC.Extracted.H11Tables
open HC.Stream.AppExit HC.Extracted.AppExit

/-! ### `_handle`: every way the application can end signals completion -/

/-- **completion is signalled however the application ends** — return, exception, cancellation (a `CancelledError` /
    `Cancelled` leaving the application), exception groups of either kind; on both workers -/
theorem completion_always_signalled (e : Exit) :
    0 < signals (run asyncioHandle e) ∧ 0 < signals (run trioHandle e) := by
  cases e <;> decide

/-- **a raising application is logged exactly once, before completion is signalled, and the exception goes no further**
    (so the connection's task group, i.e. its other streams, never sees it) -/
theorem failure_logged_once_and_contained (e : Exit) (h : e = .exception ∨ e = .groupErrors) :
    logs (run asyncioHandle e) = 1 ∧ (run asyncioHandle e).2 = false ∧ (run asyncioHandle e).1.head? = some .log ∧
    logs (run trioHandle e) = 1 ∧ (run trioHandle e).2 = false ∧ (run trioHandle e).1.head? = some .log := by
  rcases h with h | h <;> subst h <;> decide

/-- an application that returns or is cancelled is not an error: nothing is logged -/
theorem quiet_exits_not_logged (e : Exit) (h : e = .returned ∨ e = .cancelled ∨ e = .groupCancelled) :
    logs (run asyncioHandle e) = 0 ∧ logs (run trioHandle e) = 0 := by
  rcases h with h | h | h <;> subst h <;> decide

/-- a cancellation is passed on (after completion was signalled), never swallowed -/
theorem cancellation_passed_on :
    (run asyncioHandle .cancelled) = ([.sendNone], true) ∧ (run trioHandle .cancelled) = ([.sendNone], true) := by decide

/-! ### a refused message starts nothing -/

/-- what `commitsAfterSend prog = true` says of a branch left by an exception at step `k` -/
theorem commitsAfterSend_spec (prog : List BStep) (h : commitsAfterSend prog = true) (k : Nat) (hk : k < prog.length)
    (hs : (runBranch prog (some k) {}).responseSent = false) : (runBranch prog (some k) {}).st = .request := by
  simp only [commitsAfterSend, List.all_eq_true, List.mem_range] at h
  have := h k hk
  simp [hs] at this
  exact this

/-- **the source's REQUEST-state branches move `self.state` only after the `Response` event was handed over**: wherever
    `http.response.start` (or trailers-before-start, or an early hint) is left by an exception — header validation,
    `int(status)`, the protocol's own refusal — the stream is still in REQUEST unless the response head went out -/
theorem request_branches_commit_after_send :
    commitsAfterSend httpStartBranch = true ∧ commitsAfterSend httpTrailersStartBranch = true ∧
    commitsAfterSend httpEarlyHintBranch = true := by decide

/-- and when nothing raises, `http.response.start` hands over the head and leaves the stream in RESPONSE -/
theorem start_branch_completes : runBranch httpStartBranch none {} = { st := .response, responseSent := true } := by decide

/-- **no response started ⇒ exactly a complete 500**: head with `content-length: 0` and `connection: close`,
    end-of-body, one access record, stream-closed -/
theorem crash_before_start (s : Http.S) (hst : s.st = .request) (hc : s.closed = false) :
    Http.appSend s none =
      ({ s with st := .closed },
       [.response 500 [("content-length".b, "0".b), ("connection".b, "close".b)], .endBody, .access (some 500), .streamClosed], none) := by
  simp [Http.appSend, hst, hc]

/-- **response started but not finished ⇒ stream-closed and nothing else**: in particular no end-of-body is ever
    signalled for the aborted response -/
theorem crash_after_start (s : Http.S) (hst : s.st = .response ∨ s.st = .trailers) (hc : s.closed = false) :
    Http.appSend s none = (s, [.streamClosed], none) := by
  rcases hst with h | h <;> simp [Http.appSend, h, hc]

/-- **model: a message refused in REQUEST hands nothing to the protocol and leaves the stream in REQUEST; when the
    application then ends (it dies with the exception) the client is answered 500** -/
theorem refused_before_start_then_exit_500 (s : Http.S) (m : Http.Msg) (e : PyErr) (hst : s.st = .request) (hc : s.closed = false)
    (hm : ∀ h mo, m ≠ .trailers h mo) (herr : (Http.appSend s (some m)).2.2 = some e) :
    (Http.appSend s (some m)).2.1 = [] ∧ (Http.appSend s (some m)).1.st = .request ∧
    (Http.appSend (Http.appSend s (some m)).1 none).2.1 =
      [.response 500 [("content-length".b, "0".b), ("connection".b, "close".b)], .endBody, .access (some 500), .streamClosed] := by
  have h := Http.sent_appSend s (some m)
  generalize Http.appSend s (some m) = o at h herr ⊢
  obtain ⟨s', evs, err⟩ := o
  cases herr
  -- a row that raises hands nothing over and assigns at most `self.response`; `crash_before_start` does the rest
  obtain ⟨k1, k2, k3, _⟩ := h.raises_quiet fun hq => by obtain ⟨_, ⟨hs, hm'⟩, _⟩ := hq; cases hm'; exact hm _ _ rfl
  exact ⟨k1, k2.trans hst, by rw [crash_before_start s' (k2.trans hst) (k3.trans hc)]⟩

/-- **model: a message refused after the response start changes nothing; the application's end then only closes the
    stream (no end-of-body)** -/
theorem refused_after_start_then_exit_aborts (s : Http.S) (m : Http.Msg) (e : PyErr) (hst : s.st = .response) (hc : s.closed = false)
    (herr : (Http.appSend s (some m)).2.2 = some e) :
    (Http.appSend s (some m)).2.1 = [] ∧ (Http.appSend s (some m)).1 = s ∧
    Http.appSend (Http.appSend s (some m)).1 none = (s, [.streamClosed], none) := by
  have h := Http.sent_appSend s (some m)
  generalize Http.appSend s (some m) = o at h herr ⊢
  obtain ⟨s', evs, err⟩ := o
  cases herr
  -- a row that raises assigns something only in REQUEST
  obtain ⟨k1, _, _, rfl | ⟨h', _⟩⟩ := h.raises_quiet fun hq => by
    rcases hq.2.2 with h' | ⟨h', _⟩ <;> rw [hst] at h' <;> cases h'
  · exact ⟨k1, rfl, crash_after_start s' (.inl hst) hc⟩
  · rw [hst] at h'; cases h'

example : (Http.appSend { method := "GET", version := "1.1" } (some (.start (some 200) (some [(.str "x-a", .str "1")]) false))).2.2 = some .typeError ∧
    (Http.appSend { method := "GET", version := "1.1" } (some (.start (some 200) (some [(.str "x-a", .str "1")]) false))).1.st = .request := by decide +kernel

/-- finishing after the response completed (or after the stream was closed) does nothing -/
theorem exit_after_completion (s : Http.S) (hc : s.closed = true) : Http.appSend s none = (s, [], none) := by
  simp [Http.appSend, hc]

/-! ### the completion branch (`message is None`) as it stands in the source -/

/-- **the model's completion step is the source's**: in every state of the response (REQUEST, RESPONSE, TRAILERS, CLOSED)
    what `Http.appSend s none` hands to the protocol is what the `message is None` branch of `HTTPStream.app_send` - read
    off the source on every run, evaluated state by state (`httpExitActs`) - sends in that state -/
theorem exit_branch_is_source (s : Http.S) (hc : s.closed = false) :
    (Http.appSend s none).2.1 = (httpExitActs s.st).flatMap XAct.events := by
  cases hst : s.st <;> simp [Http.appSend, hc, hst, httpExitActs, XAct.events]

/-- **an application that ends after the response start and before its end - mid-body, or with the whole body sent and
    the announced trailers still outstanding (TRAILERS) - gets nothing but stream-closed from the source**: no statement
    that would complete or continue the response (no end-of-body, no 500, no trailers) -/
theorem source_exit_never_completes (st : Http.St) (h : st = .response ∨ st = .trailers) :
    ∀ a ∈ httpExitActs st, a.completes = false := by
  rcases h with h | h <;> subst h <;> decide

/-- and before the start the source answers with the complete 500, then stream-closed -/
theorem source_exit_before_start_500 : httpExitActs .request = [.errorResponse 500, .streamClosed] := by decide

/-! ### HTTP/1: a message h11 refused, then the application's failure -/

/-- `fire` (h11's state-triggered transitions) never takes our side out of ERROR -/
theorem fire_keeps_server_error (x : H11M.St) (h : x.server = .error) : (H11M.fire x).server = .error := by
  rw [H11M.fire_server x (by rw [h]; decide) (by rw [h]; decide), h]

/-- the library call of `_send_h11_event` -/
def libCall (st : St) : LibSend → Option H11M.St
  | .info s _ => H11M.sendInfo st.lib s
  | .response s hs => H11M.sendResponse st.lib (respInfo s hs)
  | .data _ => H11M.sendData st.lib
  | .eom => H11M.sendEom st.lib

theorem libSend_refused (st : St) (e : LibSend) (h : libCall st e = none) :
    libSend st e = ({ st with lib := H11M.sendFailed st.lib }, [.libSend e false],
      (H11M.sendFailed st.lib).client != .error && st.lib.server != .error) := by
  cases e <;> simp only [libCall] at h <;> simp [libSend, h]

theorem libSend_accepted (st : St) (e : LibSend) (lib' : H11M.St) (h : libCall st e = some lib') :
    Out.libSend e false ∉ (libSend st e).2.1 := by
  cases e <;> simp only [libCall] at h <;> simp [libSend, h] <;> (try split) <;> simp

theorem sendFailed_server (l : H11M.St) : (H11M.sendFailed l).server = .error := by
  simp only [H11M.sendFailed, H11M.processError]
  apply fire_keeps_server_error
  simp [H11M.St.set]

/-- **a send h11 refuses leaves our side in ERROR** (`send_with_data_passthrough`: `_process_error(our_role)`) -/
theorem refused_send_poisons (st : St) (e : LibSend) (h : Out.libSend e false ∈ (libSend st e).2.1) :
    (libSend st e).1.lib.server = .error := by
  cases hc : libCall st e with
  | some lib' => exact absurd h (libSend_accepted st e lib' hc)
  | none => rw [libSend_refused st e hc]; exact sendFailed_server _

/-- **once our side is in ERROR no `_send_h11_event` raises any more** - whatever the event: the body and the end an
    application goes on sending, its retried start, and the 500 that `app_send(None)` attempts when the application has
    died are all dropped (`errored = our_state is ERROR` before the call: the raise flag is false); nothing is written;
    our side stays in ERROR, so `_maybe_recycle` closes the connection (`h1_crash_mid_response_closes`' argument) -/
theorem errored_send_never_raises (st : St) (e : LibSend) (h : st.lib.server = .error) :
    (libSend st e).2.2 = false ∧ (libSend st e).2.1 = [.libSend e false] ∧ (libSend st e).1.lib.server = .error := by
  have hr : libCall st e = none := by
    cases e <;> simp [libCall, H11M.sendInfo, H11M.sendResponse, H11M.sendData, H11M.sendEom, h]
  rw [libSend_refused st e hr]
  exact ⟨by simp [h], rfl, sendFailed_server _⟩

/-- **a message h11 refused, then anything**: after the refusal (which alone is raised into the application) every later
    send of the connection is dropped without an exception - in particular the failure of the application that follows
    (its 500) cannot end the connection handler with an error -/
theorem refused_then_nothing_raises (st : St) (e e' : LibSend) (h : Out.libSend e false ∈ (libSend st e).2.1) :
    (libSend (libSend st e).1 e').2.2 = false :=
  (errored_send_never_raises _ e' (refused_send_poisons st e h)).1

/-- non-vacuous: a 101 on a request that proposed no upgrade is refused (h11's writer in SEND_RESPONSE, nothing pending) -/
example : libCall { lib := { client := .done, server := .sendResponse } } (.info 101 []) = none := by decide +kernel

/-- h11's writer reaches DONE only through `EndOfMessage` -/
theorem server_done_only_by_eom (s s' : H11M.St) (k : EvKey) (h : H11M.stepServer s k = some s') (hk : k ≠ .eom)
    (hs : s.server ≠ .done) (hka : s.keepAlive = true ∨ True) : s'.server = .done → False := by
  intro hd
  obtain ⟨sv, hsv, rfl⟩ := H11M.stepServer_eq h
  -- the table target of a non-eom server event is never DONE, and the state-triggered transitions never produce DONE
  have hsv' : sv ≠ .done := fun e =>
    hk (H11M.lookupEvent_forall (fun r _ k t => r = .server → t = some .done → k = .eom) (by decide +kernel) .server _ k rfl (e ▸ hsv))
  have one : ∀ y : H11M.St, y.server ≠ .done → (H11M.fireOnce y).server ≠ .done := fun y hy =>
    H11M.firePair_forall (fun _ _ _ sv r => sv ≠ .done → r.2 ≠ .done) (by decide +kernel) _ _ _ _ hy
  exact H11M.fire_of_fireOnce (T := fun a b => a.server ≠ .done → b.server ≠ .done) (fun h1 h2 h => h2 (h1 h)) one _
    (by simpa using hsv') hd

/-- **HTTP/1: an application that ends after the response start but before its end closes the connection**:
    h11's writer is in SEND_BODY (not DONE), so `_maybe_recycle` emits `Closed` and never restarts the cycle —
    the client sees the response cut short of its declared length / final chunk -/
theorem h1_crash_mid_response_closes (st : St) (hs : st.lib.server = .sendBody) :
    Out.upClosed ∈ (maybeRecycle st).2 ∧ Out.startNextCycle true ∉ (maybeRecycle st).2 := by
  have h := HC.Props.C06.reuse_iff st
  have hn : ¬ (st.closed = false ∧ st.terminated = false ∧ st.lib.server = .done ∧ st.lib.client = .done ∧ st.wsMode = false) := by
    intro ⟨_, _, h2, _⟩; rw [hs] at h2; cases h2
  exact ⟨h.2.mpr hn, fun hc => hn (h.1.mp hc)⟩

/-- the whole step at the protocol level: current HTTP stream in RESPONSE, application ends ⇒ `Closed`, no reuse,
    and no `EndOfMessage` is handed to h11 -/
theorem h1_crash_step (cfg : Cfg) (st : St) (i : Nat) (s : Http.S)
    (hobj : st.objs[i]? = some (.http s)) (hst : s.st = .response) (hc : s.closed = false) (hsrv : st.lib.server = .sendBody) :
    let r := appSendHttp cfg st i none
    Out.upClosed ∈ r.2.1 ∧ (∀ ok, Out.libSend .eom ok ∉ r.2.1) ∧ r.2.2 = none := by
  have happ : Http.appSend s none = (s, [.streamClosed], none) := crash_after_start s (Or.inl hst) hc
  simp only [appSendHttp, hobj, happ, runHttpEvs, httpStreamSend]
  have hlib : (st.setObj i (.http s)).lib.server = .sendBody := by simpa [St.setObj] using hsrv
  obtain ⟨h1, h2⟩ := h1_crash_mid_response_closes (st.setObj i (.http s)) hlib
  refine ⟨by simpa using h1, ?_, by simp⟩
  intro ok hmem
  simp only [List.append_nil] at hmem
  exact HC.Props.C06.maybeRecycle_no_libSend _ _ _ hmem

/-- **WebSocket**: ending in the handshake answers 500; ending while connected sends close 1011; both then close the stream -/
theorem ws_crash_handshake (token : Bytes → Bytes) (ext : Option Bytes) (s : Ws.S) (hst : s.st = .handshake) (hc : s.closed = false) :
    Ws.appSend token ext s none = ({ s with st := .httpClosed }, Ws.errorResponse 500 ++ [.streamClosed], none) := by      -- one access record (inside errorResponse); HTTPCLOSED before the 500 is sent (F98)
  simp [Ws.appSend, hst, hc]

theorem ws_crash_connected (token : Bytes → Bytes) (ext : Option Bytes) (s : Ws.S) (hst : s.st = .connected) (hc : s.closed = false)
    (hconn : s.conn = some .open) :
    Ws.appSend token ext s none = ({ s with conn := some .localClosing }, [.data (.close 1011), .streamClosed], none) := by
  simp [Ws.appSend, hst, hc, Ws.sendWs, hconn, Ws.connSend]

/-! ### WebSocket: a refused `websocket.close` leaves the connection open (F63) -/

/-- what `closesAfterFrame prog = true` says of a branch left by an exception at step `k` -/
theorem closesAfterFrame_spec (prog : List WStep) (h : closesAfterFrame prog = true) (k : Nat) (hk : k < prog.length)
    (hs : (runWBranch prog (some k) {}).frameBuilt = false) : (runWBranch prog (some k) {}).st = .connected := by
  simp only [closesAfterFrame, List.all_eq_true, List.mem_range] at h
  have := h k hk
  simp [hs] at this
  exact this

/-- **the source's CONNECTED-state `websocket.close` branch moves `self.state` only once the close frame has been produced,
    and has moved it to CLOSED before the first await after that**: wherever the branch is left by an exception — `int(code)`,
    wsproto's serialisation of the code or of the reason — the stream is still CONNECTED unless the frame exists; and the
    reader task never runs between "wsproto is closing" and "`self.state` is CLOSED" -/
theorem ws_close_branch_commits_after_frame :
    closesAfterFrame wsCloseBranch = true ∧ closedBeforeYield wsCloseBranch = true := by decide

/-- and when nothing raises, the branch builds the frame and leaves the stream CLOSED -/
theorem ws_close_branch_completes :
    runWBranch wsCloseBranch none {} = { st := .closed, frameBuilt := true, yieldedOpen := false } := by decide

/-- the order the branch had before the repair (state first, then `_send_wsproto_event`) does not have the first property, and
    "send first, then the state" does not have the second: the clauses tell the three orders apart -/
example : closesAfterFrame [.setState .closed, .sendEvent, .sendEndData] = false ∧
    closedBeforeYield [.sendEvent, .setState .closed, .sendEndData] = false := by decide +kernel

/-- wsproto's serialisation of a close frame refuses exactly: a code outside 0..65535 (`struct.error`), else a reason that is
    neither `None` nor a str (`AttributeError`) -/
theorem closeFrame_refusals (n : Int) (reason : Option HV) (e : PyErr) (h : Ws.closeFrame n reason = .error e) :
    ((n < 0 ∨ 65535 < n) ∧ e = .structError) ∨
    (0 ≤ n ∧ n ≤ 65535 ∧ e = .attributeError ∧ (∃ v, reason = some v ∧ v ≠ .none ∧ ∀ t, v ≠ .str t)) := by
  unfold Ws.closeFrame at h
  by_cases hr : n < 0 ∨ 65535 < n
  · rw [if_pos hr] at h
    exact Or.inl ⟨hr, by cases h; rfl⟩
  · rw [if_neg hr] at h
    have hr' : 0 ≤ n ∧ n ≤ 65535 := by omega
    right
    refine ⟨hr'.1, hr'.2, ?_⟩
    cases reason with
    | none => cases h
    | some v => cases v <;> simp at h <;> simp [h]

/-- **every way the frame of a `websocket.close` message cannot be built, by cases**: `int(code)` raised (`e` is what it
    raised), or there is no connection object, or the connection would take a close frame and wsproto's serialisation refuses
    the code (outside 0..65535: `struct.error`) or the reason (neither `None` nor a str: `AttributeError`) -/
theorem ws_close_refusals (s : Ws.S) (code : Ws.CloseCode) (reason : Option HV) (e : PyErr)
    (h : Ws.closeArgs s code reason = .error e) :
    code = .refused e ∨ (s.conn = none ∧ e = .attributeError) ∨
    (∃ n, code.value = .ok n ∧ (s.conn = some .open ∨ s.conn = some .remoteClosing) ∧
      (((n < 0 ∨ 65535 < n) ∧ e = .structError) ∨
       (0 ≤ n ∧ n ≤ 65535 ∧ e = .attributeError ∧ (∃ v, reason = some v ∧ v ≠ .none ∧ ∀ t, v ≠ .str t)))) := by
  unfold Ws.closeArgs at h
  cases hv : code.value with
  | error x =>
    left
    cases code <;> simp [Ws.CloseCode.value] at hv
    simp [Ws.CloseCode.value] at h
    rw [h]
  | ok n =>
    right
    rw [hv] at h
    cases hcn : s.conn with
    | none => rw [hcn] at h; exact Or.inl ⟨rfl, by cases h; rfl⟩
    | some c =>
      right
      rw [hcn] at h
      refine ⟨n, rfl, ?_⟩
      cases c with
      | «open» => exact ⟨Or.inl rfl, closeFrame_refusals n reason e (by simpa [Ws.connSend] using h)⟩
      | remoteClosing => exact ⟨Or.inr rfl, closeFrame_refusals n reason e (by simpa [Ws.connSend] using h)⟩
      | localClosing => simp [Ws.connSend] at h
      | closed => simp [Ws.connSend] at h

/-- **model: a `websocket.close` message refused while CONNECTED hands nothing to the protocol and leaves the stream exactly
    as it was — for every code and every reason, whichever layer refuses (cases: `ws_close_refusals`); when the application
    then ends (it dies with the exception) the client is sent the 1011 close frame** -/
theorem ws_refused_close_then_exit_1011 (token : Bytes → Bytes) (ext : Option Bytes) (s : Ws.S) (code : Ws.CloseCode)
    (reason : Option HV) (e : PyErr) (hst : s.st = .connected) (hc : s.closed = false)
    (herr : (Ws.appSend token ext s (some (.close code reason))).2.2 = some e) :
    Ws.closeArgs s code reason = .error e ∧
    (Ws.appSend token ext s (some (.close code reason))).2.1 = [] ∧
    (Ws.appSend token ext s (some (.close code reason))).1 = s ∧
    (s.conn = some .open →
      Ws.appSend token ext (Ws.appSend token ext s (some (.close code reason))).1 none =
        ({ s with conn := some .localClosing }, [.data (.close 1011), .streamClosed], none)) := by
  have h := Ws.sent_appSend token ext s (some (.close code reason))
  generalize Ws.appSend token ext s (some (.close code reason)) = o at h herr ⊢
  obtain ⟨s', evs, err⟩ := o
  cases herr
  obtain ⟨rfl, rfl⟩ := h.raises_quiet
  exact ⟨h.close_raises hst, rfl, rfl, ws_crash_connected token ext s' hst hc⟩

/-- a code that is no number, a code that does not fit a close frame, a reason that is not a str: all refused, the stream untouched -/
example : (Ws.appSend (fun _ => []) none { st := .connected, hs := { version := "1.1" }, conn := some .open, buffer := { maxLength := 10 } }
      (some (.close (.refused .valueError) none))).2.2 = some .valueError ∧
    (Ws.appSend (fun _ => []) none { st := .connected, hs := { version := "1.1" }, conn := some .open, buffer := { maxLength := 10 } }
      (some (.close (.int 70000) none))).2.2 = some .structError ∧
    (Ws.appSend (fun _ => []) none { st := .connected, hs := { version := "1.1" }, conn := some .open, buffer := { maxLength := 10 } }
      (some (.close (.int 1000) (some (.int 5))))).2.2 = some .attributeError ∧
    (Ws.appSend (fun _ => []) none { st := .connected, hs := { version := "1.1" }, conn := some .open, buffer := { maxLength := 10 } }
      (some (.close (.int 1000) (some (.int 5))))).1.st = .connected := by decide +kernel

/-! ### WebSocket: every message sequence, then the application's death (both carriers: the stream hands either protocol the
    same events) -/
open HC.Stream.WsExit in
/-- **a refused WebSocket message — of any type, with any payload, in any state — hands nothing to the protocol and leaves
    the stream exactly where it was** (so dying with the exception is answered as the state demands: next theorems) -/
theorem ws_refused_message_is_noop (token : Bytes → Bytes) (ext : Option Bytes) (s : Ws.S) (w : List Ws.Ev) (m : Ws.Msg) (e : PyErr)
    (hI : Inv s w) (herr : (Ws.appSend token ext s (some m)).2.2 = some e) :
    (Ws.appSend token ext s (some m)).2.1 = [] ∧ (Ws.appSend token ext s (some m)).1.st = s.st ∧
    (Ws.appSend token ext s (some m)).1.conn = s.conn ∧ (Ws.appSend token ext s (some m)).1.closed = s.closed := by
  have h := Ws.sent_appSend token ext s (some m)
  generalize Ws.appSend token ext s (some m) = o at h herr ⊢
  obtain ⟨s', evs, err⟩ := o
  cases herr
  obtain ⟨rfl, rfl⟩ := h.raises_quiet
  exact ⟨rfl, rfl, rfl, rfl⟩

open HC.Stream.WsExit in
/-- **any interleaving of application messages (accepted or refused; a refusal caught by the application or not) and client
    input, then the application's death: the stream hands the protocol at most one response head, at most one end of a
    response body and at most one close frame over its whole life** — never a second final response, never a close frame
    after a close frame (the 1011 of a dying application included) -/
theorem ws_life_at_most_one_answer (token : Bytes → Bytes) (ext : Option Bytes) (s0 : Ws.S) (hst : s0.st = .handshake)
    (hconn : s0.conn = none) (ops : List WsExit.Op) :
    heads (life token ext s0 ops) ≤ 1 ∧ ends (life token ext s0 ops) ≤ 1 ∧ closes (life token ext s0 ops) ≤ 1 := by
  have h1 := inv_run token ext ops s0 [] (inv_init s0 hst hconn)
  have h2 := inv_appSend token ext _ none _ h1
  simp only [List.nil_append] at h2
  exact ⟨h2.1, h2.2.1, h2.2.2.1⟩

open HC.Stream.WsExit in
/-- **what the application's death adds, by the state it dies in** (after any interleaving `ops`; `w` = what went out before):
    handshake unanswered ⇒ exactly the 500 (the only response head of the stream); a rejection started or complete, or the
    stream closed by the application's own `websocket.close` ⇒ nothing more (in particular no end-of-body for an unfinished
    rejection, no second close frame); connected and no close frame sent yet ⇒ exactly the 1011 close frame; connected
    with a close frame already out (1009 for an oversized message, the echo of the client's close) ⇒ nothing more;
    the stream already closed by the protocol (client gone, 400 answered) ⇒ nothing at all -/
theorem ws_death_by_state (token : Bytes → Bytes) (ext : Option Bytes) (s0 : Ws.S) (hst : s0.st = .handshake)
    (hconn : s0.conn = none) (ops : List WsExit.Op) :
    let s := (run token ext s0 ops).1
    let w := (run token ext s0 ops).2
    let x := (Ws.appSend token ext s none).2.1
    (s.closed = true → x = []) ∧
    (s.closed = false →
      (s.st = .handshake → heads w = 0 ∧ closes w = 0 ∧ x = Ws.errorResponse 500 ++ [.streamClosed]) ∧
      (s.st = .response → heads w = 1 ∧ ends w = 0 ∧ closes w = 0 ∧ x = [.streamClosed]) ∧
      (s.st = .httpClosed → heads w = 1 ∧ ends w = 1 ∧ closes w = 0 ∧ x = [.streamClosed]) ∧
      (s.st = .closed → heads w = 1 ∧ closes w = 1 ∧ x = [.streamClosed]) ∧
      (s.st = .connected → heads w = 1 ∧
        ((s.conn = some .open ∧ closes w = 0 ∧ x = [.data (.close 1011), .streamClosed]) ∨
         (s.conn ≠ some .open ∧ closes w = 1 ∧ x = [.streamClosed])))) := by
  have h1 := inv_run token ext ops s0 [] (inv_init s0 hst hconn)
  simp only [List.nil_append] at h1
  intro s w x
  refine ⟨fun hc => by simp [x, Ws.appSend, hc], fun hc => ?_⟩
  have hL : Live s w := h1.2.2.2 hc
  refine ⟨fun h => ?_, fun h => ?_, fun h => ?_, fun h => ?_, fun h => ?_⟩
  · simp only [Live, h] at hL
    exact ⟨hL.1, hL.2.2.1, by simp [x, Ws.appSend, hc, h]⟩
  · simp only [Live, h] at hL
    exact ⟨hL.1, hL.2.1, hL.2.2.1, by simp [x, Ws.appSend, hc, h]⟩
  · simp only [Live, h] at hL
    exact ⟨hL.1, hL.2.1, hL.2.2.1, by simp [x, Ws.appSend, hc, h]⟩
  · simp only [Live, h] at hL
    obtain ⟨a1, _, c, _, _, _, a2⟩ := hL
    exact ⟨a1, a2, by simp [x, Ws.appSend, hc, h]⟩
  · simp only [Live, h] at hL
    obtain ⟨a1, _, c, hcn, hnr, a2⟩ := hL
    refine ⟨a1, ?_⟩
    cases c with
    | «open» => exact Or.inl ⟨hcn, by simpa using a2, by simp [x, Ws.appSend, hc, h, Ws.sendWs, hcn, Ws.connSend]⟩
    | remoteClosing => exact absurd rfl hnr
    | localClosing => exact Or.inr ⟨by simp [hcn], by simpa using a2, by simp [x, Ws.appSend, hc, h, Ws.sendWs, hcn, Ws.connSend]⟩
    | closed => exact Or.inr ⟨by simp [hcn], by simpa using a2, by simp [x, Ws.appSend, hc, h, Ws.sendWs, hcn, Ws.connSend]⟩

open HC.Stream.WsExit in
/-- **the application's messages alone (any list: accepted, refused, in any order), then its death: the wire carries exactly
    one of** {the 500 (handshake unanswered) | nothing more (rejection started / complete, close already sent) | the 1011
    close frame (connected)} — by induction over the list, from a stream fresh from a valid handshake -/
theorem ws_messages_then_death (token : Bytes → Bytes) (ext : Option Bytes) (s0 : Ws.S) (hst : s0.st = .handshake)
    (hconn : s0.conn = none) (hcl : s0.closed = false) (ms : List Ws.Msg) :
    let s := (feed token ext s0 ms).1
    let w := (feed token ext s0 ms).2
    let x := (Ws.appSend token ext s none).2.1
    (s.st = .handshake ∧ heads w = 0 ∧ closes w = 0 ∧ x = Ws.errorResponse 500 ++ [.streamClosed]) ∨
    ((s.st = .response ∨ s.st = .httpClosed) ∧ heads w = 1 ∧ closes w = 0 ∧ x = [.streamClosed]) ∨
    (s.st = .closed ∧ heads w = 1 ∧ closes w = 1 ∧ x = [.streamClosed]) ∨
    (s.st = .connected ∧ heads w = 1 ∧ closes w = 0 ∧ x = [.data (.close 1011), .streamClosed]) := by
  intro s w x
  have hA : AppInv s := appInv_feed token ext ms s0 ⟨hcl, fun h => by rw [hst] at h; cases h⟩
  obtain ⟨_, hd⟩ := ws_death_by_state token ext s0 hst hconn (ms.map WsExit.Op.app)
  obtain ⟨d1, d2, d3, d4, d5⟩ := hd hA.1
  cases h : s.st
  · exact Or.inl ⟨rfl, d1 h⟩
  · right; right; right
    obtain ⟨a1, a2⟩ := d5 h
    rcases a2 with ⟨_, a3, a4⟩ | ⟨a3, _⟩
    · exact ⟨rfl, a1, a3, a4⟩
    · exact absurd (hA.2 h) a3
  · obtain ⟨a1, _, a3, a4⟩ := d2 h
    exact Or.inr (Or.inl ⟨Or.inl rfl, a1, a3, a4⟩)
  · exact Or.inr (Or.inr (Or.inl ⟨rfl, d4 h⟩))
  · obtain ⟨a1, _, a3, a4⟩ := d3 h
    exact Or.inr (Or.inl ⟨Or.inr rfl, a1, a3, a4⟩)

open HC.Stream.WsExit in
/-- the hypotheses are satisfiable and every branch occurs: accept, a refused close, a refused send, then death ⇒ 1011;
    a rejection head then death ⇒ nothing more, no end-of-body; a refused accept then death ⇒ 500 -/
example :
    let s0 : Ws.S := { hs := { version := "1.1", key := some [1] }, buffer := { maxLength := 10 } }
    life (fun _ => []) none s0 [.app (.accept none []), .app (.close (.int 70000) none), .app (.send none (some (.int 5)))] =
      [.response 101 [("sec-websocket-accept".b, []), ("upgrade".b, "WebSocket".b), ("connection".b, "Upgrade".b)], .access 101,
       .data (.close 1011), .streamClosed] ∧
    life (fun _ => []) none s0 [.app (.respStart (some 403) (some [])), .app (.respBody none true), .app (.close .absent none)] =
      [.response 403 [], .body [], .streamClosed] ∧
    life (fun _ => []) none s0 [.app (.accept (some "nope".b) [])] = Ws.errorResponse 500 ++ [.streamClosed] := by decide +kernel

/-- **HTTP/2 reset rule** (`H2Protocol._reset_abandoned_response`): a closing HTTP stream whose send buffer exists and was
    never completed is reset; a completed one (END_STREAM sent, buffer gone) is not -/
def h2ResetOnClose (bufferExists bufferComplete isHttpStream : Bool) : Bool :=
  bufferExists && !bufferComplete && isHttpStream

theorem h2_abandoned_reset (c : Bool) : h2ResetOnClose true c true = !c := by cases c <;> rfl
theorem h2_completed_not_reset (h : Bool) : h2ResetOnClose false false h = false := by cases h <;> rfl

/-! ### HTTP/2: a failed stream does not take the connection's receive window with it -/
open HC.Proto.H2Credit in
/-- **the connection's other streams keep their window**: request-body DATA that is still arriving for a stream whose
    application has already ended (answered 500 / completed, the stream forgotten: `live = false`) is acknowledged in
    full, exactly like DATA of live streams — the acknowledgement counts of both paths of `_handle_events` are read off
    the source (`ReqGlue.dataAcksDelivered`, `dataAcksMissing`).  So after any upload to failed streams, of any length
    and interleaved with anything, the client has the whole connection window `w0` again for its other streams. -/
theorem failed_stream_upload_credited (es : List DataEv) (w0 : Nat) : (run {} es).available w0 = w0 := by
  have hack : ∀ e : DataEv, acked e = e.len := by
    intro e
    cases e with
    | mk len live => cases live <;> simp [acked, HC.Extracted.ReqGlue.dataAcksDelivered, HC.Extracted.ReqGlue.dataAcksMissing]
  have key : ∀ (l : List DataEv) (w : Win), w.returned = w.consumed → (run w l).returned = (run w l).consumed := by
    intro l
    induction l with
    | nil => intro w hw; exact hw
    | cons e t ih =>
      intro w hw
      apply ih
      simp [HC.Proto.H2Credit.step, hack, hw]
  have := key es {} rfl
  simp [Win.available, this]

/-- in particular a whole connection window uploaded to a stream that failed before reading leaves it untouched -/
example : (HC.Proto.H2Credit.run {} [⟨1000, true⟩, ⟨16384, false⟩, ⟨16384, false⟩, ⟨16384, false⟩, ⟨15383, false⟩]).available 65535 = 65535 := by
  decide +kernel

example : (Http.appSend { method := "GET", version := "1.1", st := .response, response := some (200, false) } none).2.1 = [.streamClosed] := by decide +kernel

end HC.Props.C05

/- (a namespace section of its own: the names `run` / `step` / `guard` of the stream models opened above are not in scope here) -/
namespace HC.Props.C05
/-! ### HTTP/2: the reset of an abandoned response does not wait for the peer's flow-control credit

"Promptly terminated": the RST_STREAM may not depend on what the client does about the stream's window.  The guard and the
statements of `H2Protocol._reset_abandoned_response` are read off the source on every run (`AppExit.h2AbandonGuard`,
`h2AbandonSteps`); `HC.Proto.H2Abandon` interprets them on a stream of the send-path model `HC.Proto.H2Send`. -/
open HC.Proto.H2Send HC.Proto.H2Abandon HC.Stream.AppExit HC.Extracted

/-- **nothing on the path waits for credit**: no statement of the source's `_reset_abandoned_response` is a
    `buffer.drain()` (which returns only once the peer has granted the window for everything still buffered) or an
    await this model does not know; what remains suspends for the transport write alone -/
theorem h2_abandon_path_waits_only_for_transport : waitsOnlyForTransport AppExit.h2AbandonSteps = true := by decide

/-- hence the function returns from EVERY state of the stream: whatever is buffered, whatever the windows are, whatever
    the buffer's events say -/
theorem h2_abandon_path_returns (x : Str) : ∃ y, runFn AppExit.h2AbandonGuard AppExit.h2AbandonSteps x = .done y := by
  unfold runFn
  split
  · exact runSteps_done _ h2_abandon_path_waits_only_for_transport x
  · exact ⟨x, rfl⟩

/-- the source's guard, evaluated on the model's stream -/
theorem h2_abandon_guard_eq (x : Str) : guardHolds AppExit.h2AbandonGuard x = (x.hasBuf && !x.complete && x.live) := by
  simp [guardHolds, atom, AppExit.h2AbandonGuard, Bool.and_assoc]

/-- **the send-path model's two ops ARE the source's statements**: wherever `abandon i` is taken from, the test it makes
    is the source's guard (plus h2's own refusal to reset a stream twice); when a reset is due that very op hands the
    RST_STREAM to h2, `abandonFin i` is enabled right after it and the two together leave the stream exactly as the
    source's statement list followed by `_close_stream` does (were one of the statements able to wait, the right-hand
    side would be `none` in the states where it does); when no reset is due the function returns at once and the stream
    is only forgotten -/
theorem h2_abandon_model_is_source (s s1 : St) (i : Nat) (h : step s (.abandon i) = some s1) :
    (((guardHolds AppExit.h2AbandonGuard (s.str i) && !(s.str i).libClosed) = true) →
      (s1.str i).libClosed = true ∧
      (step s1 (.abandonFin i)).map (fun s2 => s2.str i) =
        (runFn AppExit.h2AbandonGuard AppExit.h2AbandonSteps (s.str i)).result.map Str.gone) ∧
    (((guardHolds AppExit.h2AbandonGuard (s.str i) && !(s.str i).libClosed) = false) →
      s1.str i = (s.str i).gone ∧
      runFn AppExit.h2AbandonGuard AppExit.h2AbandonSteps (s.str i) = .done (s.str i)) := by
  generalize hx : s.str i = x at h ⊢
  simp only [step, hx] at h
  by_cases hp : x.pusher = .idle
  · simp only [hp, bne_self_eq_false, Bool.false_eq_true, if_false] at h
    constructor
    · intro hg
      rw [h2_abandon_guard_eq] at hg
      have hc : (x.hasBuf && !x.complete && x.live && !x.libClosed) = true := hg
      simp only [hc, if_true, Option.some.injEq] at h
      subst h
      simp only [Bool.and_eq_true, Bool.not_eq_true'] at hg
      obtain ⟨⟨⟨h1, h2⟩, h3⟩, h4⟩ := hg
      refine ⟨by simp, ?_⟩
      simp [step, runFn, Out.result, h2_abandon_guard_eq, h1, h2, h3, h4, AppExit.h2AbandonSteps, runSteps, Str.gone, Str.closeBuf, hp]
    · intro hg
      rw [h2_abandon_guard_eq] at hg
      have hc : (x.hasBuf && !x.complete && x.live && !x.libClosed) = false := hg
      simp only [hc, Bool.false_eq_true, if_false, Option.some.injEq] at h
      subst h
      refine ⟨by simp, ?_⟩
      simp only [runFn]
      split
      · rename_i hgd
        rw [h2_abandon_guard_eq] at hgd
        have : x.libClosed = true := by simp [hgd] at hg; exact hg
        simp [AppExit.h2AbandonSteps, runSteps, this]
      · rfl
  · have : (x.pusher != PPc.idle) = true := by simp [hp]
    simp [this] at h

/-- **the reset step is enabled in every state** of `HC.Proto.H2Send` (which has the buffer, both windows and the send
    task): when the application is finished with stream `i` (its sender is not inside another call), `abandon i` can be
    taken whatever the buffer holds and whatever the stream's window, the connection's window, the frame size and the
    send task's position are; if the response is unfinished (buffer not complete, stream registered, not yet reset) that
    very step hands the RST_STREAM to h2, and from ANY later state in which the sender is still inside the function
    `abandonFin i` is enabled and leaves the stream unregistered, without buffer, the sender free -/
theorem h2_abandoned_reset_needs_no_credit (s : St) (i : Nat) (hidle : (s.str i).pusher = .idle) :
    ∃ s1, step s (.abandon i) = some s1 ∧
      (((s.str i).hasBuf && !(s.str i).complete && (s.str i).live && !(s.str i).libClosed) = true →
          (s1.str i).libClosed = true ∧ (s1.str i).pusher = .inAbandon) ∧
      (((s.str i).hasBuf && !(s.str i).complete && (s.str i).live && !(s.str i).libClosed) = false →
          (s1.str i).live = false ∧ (s1.str i).pusher = .idle) ∧
      ∀ s' : St, (s'.str i).pusher = .inAbandon →
        ∃ s2, step s' (.abandonFin i) = some s2 ∧ (s2.str i).live = false ∧ (s2.str i).hasBuf = false ∧ (s2.str i).pusher = .idle := by
  have hfin : ∀ s' : St, (s'.str i).pusher = .inAbandon →
      ∃ s2, step s' (.abandonFin i) = some s2 ∧ (s2.str i).live = false ∧ (s2.str i).hasBuf = false ∧ (s2.str i).pusher = .idle := by
    intro s' hs'
    simp only [step, hs', bne_self_eq_false, Bool.false_eq_true, if_false]
    exact ⟨_, rfl, by simp [Str.gone], by simp, by simp⟩
  simp only [step, hidle, bne_self_eq_false, Bool.false_eq_true, if_false]
  by_cases hc : ((s.str i).hasBuf && !(s.str i).complete && (s.str i).live && !(s.str i).libClosed) = true
  · simp only [hc, if_true]
    exact ⟨_, rfl, fun _ => by simp, fun h => by simp at h, hfin⟩
  · have hc' : ((s.str i).hasBuf && !(s.str i).complete && (s.str i).live && !(s.str i).libClosed) = false := by simpa using hc
    simp only [hc', Bool.false_eq_true, if_false]
    exact ⟨_, rfl, fun h => by simp at h, fun _ => by simp [Str.gone, hidle], hfin⟩

/-- `h2_abandon_path_waits_only_for_transport` is needed: with a `drain()` in front of the reset the function is left
    waiting - no RST_STREAM - whenever the buffer holds bytes (here 3, window 0) the send task has not been able to take -/
example : runFn AppExit.h2AbandonGuard (.drain :: AppExit.h2AbandonSteps) { hasBuf := true, live := true, buf := 3, window := 0 } =
    .waits { hasBuf := true, live := true, buf := 3, window := 0 } (.drain :: AppExit.h2AbandonSteps) := by decide +kernel

end HC.Props.C05
