import HC.Stream.WsLemmas
import HC.Stream.WsIter
import HC.Stream.WsOverlap
import HC.Stream.WsSpec
import HC.Pure.Sha1
/-!
# C11 — WebSocket handshake validation and lifecycle mapping

Model: `HC/Stream/Ws.lean` (`Handshake`, `WSStream.handle(Request)`, `app_send`, `handle(StreamClosed)`).
Specification vocabulary: `HC/Stream/WsSpec.lean` (`lastHeader`, `tokens`, `validSpec`), `HC/Pure/Sha1.lean`
(`acceptToken`, the executable RFC 6455 token).

Full statement (property text): an upgrade is attempted only for a valid handshake and otherwise answered 400 without
starting an application; the first message to the application is `websocket.connect`; accept gives 101/200 with the
RFC 6455 token, only an offered subprotocol, and the extra headers; close gives 403; the HTTP-response extension gives
exactly that response; the disconnect code is the client's close code (1005 if none) after a client-initiated close,
1000 after the application's own close, 1006 when the connection was lost.

All of it is proved at full strength: `is_valid_iff` (no side condition), `non_ascii_is_400`, `invalid_400_no_app`,
`valid_connect_first`, `never_started_never_put`, `accept_rendered`, `accept_ok_iff`, `accept_refused_is_noop`,
`accept_token_rfc6455`, `accept_extra_any_iterable`, `accept_any_iterable` (whatever iterable carries the extra headers), `close_403`,
`http_response_exact`, `disconnect_code`, `disconnect_code_client_close`,
`app_close_1000`, `simultaneous_close_1000`, `lost_1006`.
(Before the repairs: a client-initiated close was reported as 1006 — F13; a non-ASCII token-list header raised
`UnicodeDecodeError` out of the constructor — F33.)  One boundary remains a theorem: `missing_upgrade_raises`
(`AttributeError`; unreachable through `H11Protocol`, which only builds a `WSStream` when an `Upgrade` header is present).
-/
namespace HC.Props.C11
open HC HC.Stream HC.Stream.Ws HC.Extracted
open HC.Extracted.WsGuards (ExtraPass)

/-! ### the handshake object is a function of the *last* occurrence of each header -/

/-- **the names of the handshake headers are matched case-insensitively**: `Handshake.__init__` lower-cases each name before it
    compares it (`WsGuards.handshakeName`, the normalisation as it stands in the loop, regenerated by the extractor).  With
    `h11_pass_raw_headers` the names reach the stream as the client wrote them, while `H11Protocol._create_stream` recognises the
    upgrade case-insensitively: without this a handshake written `Upgrade:` / `connection:` leaves `self.upgrade` unset and
    `is_valid` raises (seeded change C04-10). -/
theorem handshake_names_lowercased (n : Bytes) : HC.Extracted.WsGuards.handshakeName n = Bytes.lower n := by rfl

/-- what `Handshake.__init__` computes from a start value `h` and a header list -/
def merge (h : Handshake) (hs : Headers) : Handshake :=
  { version := h.version,
    connectionTokens := ((lastHeader "connection".b hs).map tokens).or h.connectionTokens,
    extensions := ((lastHeader "sec-websocket-extensions".b hs).map tokens).or h.extensions,
    key := (lastHeader "sec-websocket-key".b hs).or h.key,
    subprotocols := ((lastHeader "sec-websocket-protocol".b hs).map tokens).or h.subprotocols,
    upgrade := (lastHeader "upgrade".b hs).or h.upgrade,
    wsVersion := (lastHeader "sec-websocket-version".b hs).or h.wsVersion,
    accepted := h.accepted,
    malformed := h.malformed }

private theorem lh_cons_map {α : Type} (name n v : Bytes) (rest : Headers) (f : Bytes → α) (x : Option α) :
    ((lastHeader name ((n, v) :: rest)).map f).or x =
      ((lastHeader name rest).map f).or (if Bytes.lower n == name then some (f v) else x) := by
  simp only [lastHeader]
  cases lastHeader name rest <;> simp <;> split <;> simp

private theorem lh_cons (name n v : Bytes) (rest : Headers) (x : Option Bytes) :
    (lastHeader name ((n, v) :: rest)).or x =
      (lastHeader name rest).or (if Bytes.lower n == name then some v else x) := by
  simpa using lh_cons_map name n v rest id x

/-- on an ASCII comma-list header (or any other header) one step of the loop is one more header for `merge` -/
theorem merge_scanned {h h' : Handshake} {n v : Bytes} (hs : Scanned h n v h') (ha : isCommaHeader n = true → isAscii v = true)
    (rest : Headers) : merge h' rest = merge h ((n, v) :: rest) := by
  have hd := handshake_names_distinct
  simp only [List.pairwise_cons, List.forall_mem_cons, List.not_mem_nil, false_imp_iff, implies_true, and_true, List.Pairwise.nil] at hd
  cases hs with
  | malformed hc hna => rw [ha hc] at hna; cases hna
  | other ho => simp only [List.forall_mem_cons, List.not_mem_nil, false_imp_iff, implies_true, and_true] at ho; simp [merge, lh_cons_map, lh_cons, ho]
  | _ e => simp [merge, lh_cons_map, lh_cons, e, hd]

theorem scan_eq (hs : Headers) : ∀ h : Handshake, commaHeadersAscii hs → Handshake.scan h hs = .ok (merge h hs) := by
  induction hs with
  | nil => intro h _; simp [Handshake.scan, merge, lastHeader]
  | cons p rest ih =>
    intro h ha
    obtain ⟨n, v⟩ := p
    obtain ⟨h', hs, e⟩ := scan_cons handshake_names_lowercased h n v rest
    rw [e, ih h' (fun x hx => ha x (by simp [hx])), merge_scanned hs (ha (n, v) (by simp))]

/-- **`Handshake(headers, http_version)` reads the last occurrence of each handshake header, names compared
    case-insensitively** (all comma-list headers ASCII; otherwise see `non_ascii_is_400`) -/
theorem ofRequest_eq (version : String) (hs : Headers) (ha : commaHeadersAscii hs) :
    Handshake.ofRequest version hs = .ok (handshakeOf version hs) := by
  rw [Handshake.ofRequest, scan_eq hs _ ha]
  simp [merge, handshakeOf]

/-- once `self.malformed` is set it stays set, and the constructor never raises -/
theorem scan_malformed_sticky (hs : Headers) : ∀ (h : Handshake), h.malformed = true →
    ∃ r, Handshake.scan h hs = .ok r ∧ r.malformed = true := by
  induction hs with
  | nil => intro h hm; exact ⟨h, rfl, hm⟩
  | cons p rest ih =>
    intro h hm
    obtain ⟨h', hs, e⟩ := scan_cons handshake_names_lowercased h p.1 p.2 rest
    rw [e]
    exact ih h' (by cases hs <;> first | rfl | exact hm)

/-- **a non-ASCII byte in any `Connection`, `Sec-WebSocket-Extensions` or `Sec-WebSocket-Protocol` header marks the
    handshake malformed** (`split_comma_header` raises `UnicodeDecodeError`, which the constructor catches) -/
theorem scan_non_ascii (hs : Headers) : ∀ (h : Handshake),
    (∃ x ∈ hs, isCommaHeader x.1 = true ∧ isAscii x.2 = false) → ∃ r, Handshake.scan h hs = .ok r ∧ r.malformed = true := by
  induction hs with
  | nil => intro h ⟨x, hx, _⟩; cases hx
  | cons p rest ih =>
    intro h ⟨x, hx, hc, hna⟩
    obtain ⟨h', hs, e⟩ := scan_cons handshake_names_lowercased h p.1 p.2 rest
    rw [e]
    rcases List.mem_cons.mp hx with rfl | hx
    · exact scan_malformed_sticky rest h' (hs.malformed_of_non_ascii hc hna)
    · exact ih h' ⟨x, hx, hc, hna⟩

/-- **…and a malformed handshake is invalid: 400, no application** (F33, repaired: it used to raise) -/
theorem non_ascii_is_400 (version : String) (hs : Headers)
    (h : ∃ x ∈ hs, isCommaHeader x.1 = true ∧ isAscii x.2 = false) :
    (Handshake.ofRequest version hs >>= Handshake.isValid) = .ok false := by
  obtain ⟨r, hr, hm⟩ := scan_non_ascii hs { version := version } h
  simp [Handshake.ofRequest, hr, bind, Except.bind, Handshake.isValid, hm]

private theorem not_ascii_exists (hs : Headers) (h : ¬ commaHeadersAscii hs) :
    ∃ x ∈ hs, isCommaHeader x.1 = true ∧ isAscii x.2 = false := by
  simp only [commaHeadersAscii, Classical.not_forall] at h
  obtain ⟨x, hx, hc, hn⟩ := h
  exact ⟨x, hx, hc, by simpa using hn⟩

/-! ### validity -/

/-- **only version 13**: the test `Handshake.is_valid` applies to the (last) `Sec-WebSocket-Version` value — operator and
    constant as they stand in the source, translated by the extractor (`HC/Extracted/WsGuards.lean`) — lets exactly the
    value `13` through: not an absent header, not `130`, `213`, `1.13`, `013`, `13, 8` or any other value containing it -/
theorem only_version_13_iff (v : Option Bytes) : HC.Extracted.WsGuards.versionAccepted v = true ↔ v = some "13".b := by
  have hk : ("13".b : Bytes) = [49, 51] := by decide
  rw [hk]
  cases v <;> simp [HC.Extracted.WsGuards.versionAccepted]

theorem only_version_13 (v : Option Bytes) : HC.Extracted.WsGuards.versionAccepted v = (v == some "13".b) := by
  rw [Bool.eq_iff_iff, only_version_13_iff]
  simp

example : HC.Extracted.WsGuards.versionAccepted (some "130".b) = false ∧ HC.Extracted.WsGuards.versionAccepted (some "213".b) = false ∧
    HC.Extracted.WsGuards.versionAccepted (some "1.13".b) = false ∧ HC.Extracted.WsGuards.versionAccepted none = false ∧
    HC.Extracted.WsGuards.versionAccepted (some "13".b) = true ∧ HC.Extracted.WsGuards.websocketVersion = "13".b := by decide +kernel

/-! ### the tests over the HTTP version, as they stand in the source -/

/-- `if self.http_version < "1.1": return False` -/
theorem version_refused_iff (version : String) : HC.Extracted.WsGuards.versionRefused version = true ↔ version < "1.1" := by
  simp [HC.Extracted.WsGuards.versionRefused]

/-- **the key / Connection / Upgrade rules apply to every version that is not the one of a multiplexed carrier** — the test of
    `Handshake.is_valid` as extracted (`elif self.http_version not in {"2", "3"}`).  Before F102 (97877e1) the test was
    `== "1.1"`: `1.2`, `2.0`, `9.9` — all of which h11 accepts on a request line — skipped the three rules. -/
theorem http1_handshake_iff (version : String) :
    HC.Extracted.WsGuards.http1Handshake version = true ↔ ¬ multiplexedVersion version := by
  simp [HC.Extracted.WsGuards.http1Handshake, multiplexedVersion]

/-- …and `Handshake.accept` chooses 101 + `upgrade` / `connection` by the same test -/
theorem http1_accept_iff (version : String) :
    HC.Extracted.WsGuards.http1Accept version = true ↔ ¬ multiplexedVersion version := by
  simp [HC.Extracted.WsGuards.http1Accept, HC.Extracted.WsGuards.http1Handshake, multiplexedVersion]

theorem accept_test_is_valid_test (version : String) :
    HC.Extracted.WsGuards.http1Accept version = HC.Extracted.WsGuards.http1Handshake version := by
  rw [Bool.eq_iff_iff, http1_accept_iff, http1_handshake_iff]

/-- **no version string an HTTP/1 connection can state is the one of a multiplexed carrier**: h11 hands over `d.d` (three
    characters), `H2Protocol` / `H3Protocol` pass `"2"` / `"3"` -/
theorem h11_version_not_multiplexed (version : String) (h : H11Version version) : ¬ multiplexedVersion version := by
  obtain ⟨a, b, _, _, rfl⟩ := h
  intro hm
  have hl : (String.ofList [a, '.', b]).length = 3 := by simp; rfl
  rcases hm with h2 | h3
  · rw [h2] at hl; exact absurd hl (by decide)
  · rw [h3] at hl; exact absurd hl (by decide)

example : H11Version "1.1" ∧ H11Version "1.2" ∧ H11Version "2.0" ∧ H11Version "9.9" ∧ H11Version "0.9" :=
  ⟨⟨'1', '1', rfl, rfl, rfl⟩, ⟨'1', '2', rfl, rfl, rfl⟩, ⟨'2', '0', rfl, rfl, rfl⟩, ⟨'9', '9', rfl, rfl, rfl⟩, ⟨'0', '9', rfl, rfl, rfl⟩⟩

/-- the last `Connection` header is a comma list with an `upgrade` token, in any case -/
abbrev upgradeAsked (hs : Headers) : Prop :=
  ∃ v, lastHeader "connection".b hs = some v ∧ ∃ t ∈ tokens v, Bytes.lower t = "upgrade".b

private theorem isValid_below (version : String) (hs : Headers) (hlt : version < "1.1") :
    (handshakeOf version hs).isValid = .ok false := by
  simp [Handshake.isValid, handshakeOf, (version_refused_iff version).mpr hlt]

private theorem isValid_multiplexed (version : String) (hs : Headers) (hlt : ¬ version < "1.1") (hm : multiplexedVersion version) :
    (handshakeOf version hs).isValid = .ok (lastHeader "sec-websocket-version".b hs == some "13".b) := by
  simp [Handshake.isValid, handshakeOf, version_refused_iff, hlt, http1_handshake_iff, hm, only_version_13]

/-- `is_valid` on a request of an HTTP/1 connection (version not below 1.1): `False` without a key or without an `upgrade` token
    in `Connection`; otherwise `self.upgrade.lower()` is evaluated - `AttributeError` without the header - and the answer is
    whether `Upgrade` is `websocket` and the version is 13 -/
theorem isValid_http1 (version : String) (hs : Headers) (hlt : ¬ version < "1.1") (hm : ¬ multiplexedVersion version) :
    ((lastHeader "sec-websocket-key".b hs = none ∨
        ¬ upgradeAsked hs) →
      (handshakeOf version hs).isValid = .ok false) ∧
    ((lastHeader "sec-websocket-key".b hs).isSome = true →
      upgradeAsked hs →
      (lastHeader "upgrade".b hs = none → (handshakeOf version hs).isValid = .error .attributeError) ∧
      ∀ u, lastHeader "upgrade".b hs = some u → (handshakeOf version hs).isValid =
        .ok (decide (Bytes.lower u = "websocket".b) && (lastHeader "sec-websocket-version".b hs == some "13".b))) := by
  unfold Handshake.isValid handshakeOf upgradeAsked
  simp only [version_refused_iff, hlt, (http1_handshake_iff version).mpr hm, only_version_13, if_false, if_true]
  cases hk : lastHeader "sec-websocket-key".b hs with
  | none => simp
  | some k =>
    cases hc : lastHeader "connection".b hs with
    | none => simp
    | some cv =>
      by_cases hany : (tokens cv).any (fun t => Bytes.lower t == "upgrade".b) = true
      · have hex : ∃ t ∈ tokens cv, Bytes.lower t = "upgrade".b := by simpa using hany
        refine ⟨fun h => ?_, fun _ _ => ⟨fun hu => by simp [hany, hu], fun u hu => ?_⟩⟩
        · simp [hex] at h
        · by_cases hw : Bytes.lower u = "websocket".b <;> simp [hany, hu, hw]
      · have hex : ¬ ∃ t ∈ tokens cv, Bytes.lower t = "upgrade".b := by simpa using hany
        exact ⟨fun _ => by simp [hany], fun _ h => absurd (by simpa using h) hex⟩

theorem isValid_handshakeOf_iff (version : String) (hs : Headers) :
    (handshakeOf version hs).isValid = .ok true ↔ validSpec version hs := by
  unfold validSpec
  by_cases hlt : version < "1.1"
  · simp [isValid_below version hs hlt, hlt]
  by_cases hm : multiplexedVersion version
  · simp [isValid_multiplexed version hs hlt hm, hlt, hm]
  obtain ⟨hA, hB⟩ := isValid_http1 version hs hlt hm
  by_cases hpart : (lastHeader "sec-websocket-key".b hs).isSome = true ∧
      upgradeAsked hs
  · obtain ⟨hn, hu⟩ := hB hpart.1 hpart.2
    cases hup : lastHeader "upgrade".b hs with
    | none =>
      rw [hn hup]
      refine ⟨nofun, fun h => ?_⟩
      obtain ⟨u, hu', _⟩ := (h.2.2 hm).2.2
      cases hu'
    | some u =>
      rw [hu u hup]
      constructor
      · intro h
        have hw : Bytes.lower u = "websocket".b ∧ lastHeader "sec-websocket-version".b hs = some "13".b := by simpa using h
        exact ⟨hlt, hw.2, fun _ => ⟨hpart.1, hpart.2, u, rfl, hw.1⟩⟩
      · intro ⟨_, h13, h⟩
        obtain ⟨_, _, u', hu', hw⟩ := h hm
        cases hu'
        simp [hw, h13]
  · have : lastHeader "sec-websocket-key".b hs = none ∨
        ¬ upgradeAsked hs := by
      cases hk : lastHeader "sec-websocket-key".b hs with
      | none => exact .inl rfl
      | some k => exact .inr fun h => hpart ⟨by simp [hk], h⟩
    rw [hA this]
    exact ⟨nofun, fun h => absurd ⟨(h.2.2 hm).1, (h.2.2 hm).2.1⟩ hpart⟩

/-- **validity, read off the header list** (both carriers): the code's `Handshake(headers, v).is_valid()` returns
    `True` exactly when the request is a valid handshake in the property's sense — last occurrence of each header,
    names case-insensitive, `Connection` a comma list containing an `upgrade` token in any case, `Upgrade` equal to
    `websocket` in any case, `Sec-WebSocket-Version` exactly `13`, a key present (HTTP/1.1); HTTP versions below 1.1
    never; above 1.1 only the version header counts — and every token-list header is ASCII -/
theorem is_valid_iff (version : String) (hs : Headers) :
    (Handshake.ofRequest version hs >>= Handshake.isValid) = .ok true ↔ (validSpec version hs ∧ commaHeadersAscii hs) := by
  by_cases ha : commaHeadersAscii hs
  · rw [ofRequest_eq version hs ha]
    simp only [bind, Except.bind]
    exact (isValid_handshakeOf_iff version hs).trans ⟨fun h => ⟨h, ha⟩, fun h => h.1⟩
  · rw [non_ascii_is_400 version hs (not_ascii_exists hs ha)]
    simp [ha]

/-- boundary: an HTTP/1 request with key and `Connection: upgrade` but no `Upgrade` header at all: `self.upgrade.lower()` on
    `None` raises `AttributeError` (unreachable through `H11Protocol._create_stream`, which requires the header) -/
theorem missing_upgrade_raises (version : String) (hlt : ¬ version < "1.1") (hm : ¬ multiplexedVersion version)
    (hs : Headers) (hk : (lastHeader "sec-websocket-key".b hs).isSome = true)
    (v : Bytes) (hc : lastHeader "connection".b hs = some v) (ht : ∃ t ∈ tokens v, Bytes.lower t = "upgrade".b)
    (hu : lastHeader "upgrade".b hs = none) :
    (handshakeOf version hs).isValid = .error .attributeError := by
  exact ((isValid_http1 version hs hlt hm).2 hk ⟨v, hc, ht⟩).1 hu

/-- apart from that one case the answer is a Boolean, and it is `false` exactly for the invalid handshakes -/
theorem is_valid_false_iff (version : String) (hs : Headers)
    (hu : ¬ multiplexedVersion version → (lastHeader "upgrade".b hs).isSome = true) :
    (Handshake.ofRequest version hs >>= Handshake.isValid) = .ok false ↔ ¬ (validSpec version hs ∧ commaHeadersAscii hs) := by
  rw [← is_valid_iff version hs]
  by_cases ha : commaHeadersAscii hs
  · rw [ofRequest_eq version hs ha]
    have : ∃ b, (handshakeOf version hs).isValid = .ok b := by
      by_cases hlt : version < "1.1"
      · exact ⟨_, isValid_below version hs hlt⟩
      by_cases hm : multiplexedVersion version
      · exact ⟨_, isValid_multiplexed version hs hlt hm⟩
      obtain ⟨hA, hB⟩ := isValid_http1 version hs hlt hm
      obtain ⟨u, hup⟩ := Option.isSome_iff_exists.mp (hu hm)
      by_cases hk : (lastHeader "sec-websocket-key".b hs).isSome = true
      · by_cases hc : upgradeAsked hs
        · exact ⟨_, (hB hk hc).2 u hup⟩
        · exact ⟨_, hA (.inr hc)⟩
      · exact ⟨_, hA (.inl (by simpa using hk))⟩
    obtain ⟨b, hb⟩ := this
    simp only [bind, Except.bind, hb]
    cases b <;> simp
  · rw [non_ascii_is_400 version hs (not_ascii_exists hs ha)]
    simp

/- the examples evaluate `is_valid` once and read the specification off `isValid_handshakeOf_iff` -/
private theorem ok_of_toOption {x : Except PyErr Bool} {b : Bool} (h : x.toOption = some b) : x = .ok b := by
  cases x <;> simp_all [Except.toOption]

example : validSpec "1.1" [("Connection".b, "keep-alive, Upgrade".b), ("upgrade".b, "WebSocket".b),
    ("sec-websocket-key".b, "x".b), ("sec-websocket-version".b, "12".b), ("Sec-WebSocket-Version".b, "13".b)] :=
  (isValid_handshakeOf_iff _ _).mp (ok_of_toOption (by decide +kernel))
/-- a request stating `HTTP/1.2` (or `2.0`, `9.9`) is held to the same rules: without a key it is not a valid handshake -/
example : ¬ validSpec "1.2" [("connection".b, "Upgrade".b), ("upgrade".b, "websocket".b), ("sec-websocket-version".b, "13".b)] :=
  fun h => absurd (h.2.2 (by decide +kernel)).1 (by decide +kernel)
example : ¬ validSpec "2.0" [("connection".b, "Upgrade".b), ("upgrade".b, "websocket".b), ("sec-websocket-version".b, "13".b)] :=
  fun h => absurd (h.2.2 (by decide +kernel)).1 (by decide +kernel)
example : validSpec "1.2" [("connection".b, "Upgrade".b), ("upgrade".b, "websocket".b), ("sec-websocket-key".b, "x".b), ("sec-websocket-version".b, "13".b)] :=
  (isValid_handshakeOf_iff _ _).mp (ok_of_toOption (by decide +kernel))
example : ¬ validSpec "1.0" [("sec-websocket-version".b, "13".b)] := fun h => h.1 (by decide +kernel)
example : validSpec "2" [("sec-websocket-version".b, "13".b)] := ⟨by decide +kernel, by decide +kernel, fun h => absurd (Or.inl rfl) h⟩
example : ¬ validSpec "2" [("sec-websocket-version".b, "13".b), ("sec-websocket-version".b, "8".b)] :=
  fun h => absurd h.2.1 (by decide +kernel)

/-! ### the `Request` event -/

/-- **invalid handshake ⇒ 400, stream closed, no application** (nothing is put, nothing can be put later) -/
theorem invalid_400_no_app (maxLen : Nat) (version : String) (hs : Headers) (ping : Bool)
    (h : (Handshake.ofRequest version hs >>= Handshake.isValid) = .ok false) :
    ∃ s, onRequest maxLen version hs true ping = .ok (s, [], errorResponse 400 ++ [.spawnClose]) ∧ s.closed = true ∧ s.hasAppPut = false := by
  unfold onRequest
  cases ho : Handshake.ofRequest version hs with
  | error e => simp [ho, bind, Except.bind] at h
  | ok hsk =>
    simp only [ho, bind, Except.bind] at h
    simp [bind, Except.bind, h, pure, Except.pure]

/-- **valid handshake ⇒ the application is started, `websocket.connect` is the first (and only) message put, and
    nothing is written to the wire** -/
theorem valid_connect_first (maxLen : Nat) (version : String) (hs : Headers) (ping : Bool)
    (h : (Handshake.ofRequest version hs >>= Handshake.isValid) = .ok true) :
    ∃ s, onRequest maxLen version hs true ping = .ok (s, [.connect], []) ∧ s.closed = false ∧ s.hasAppPut = true ∧
      s.st = .handshake ∧ s.conn = none ∧ s.clientCloseCode = none := by
  unfold onRequest
  cases ho : Handshake.ofRequest version hs with
  | error e => simp [ho, bind, Except.bind] at h
  | ok hsk =>
    simp only [ho, bind, Except.bind] at h
    simp [bind, Except.bind, h, pure, Except.pure]

/-- the two together, in the property's terms -/
theorem upgrade_iff_valid (maxLen : Nat) (version : String) (hs : Headers) (ping : Bool)
    (hu : ¬ multiplexedVersion version → (lastHeader "upgrade".b hs).isSome = true) :
    ((validSpec version hs ∧ commaHeadersAscii hs) → ∃ s, onRequest maxLen version hs true ping = .ok (s, [.connect], [])) ∧
    (¬ (validSpec version hs ∧ commaHeadersAscii hs) →
      ∃ s, onRequest maxLen version hs true ping = .ok (s, [], errorResponse 400 ++ [.spawnClose]) ∧ s.closed = true) := by
  constructor
  · intro hv
    obtain ⟨s, h, _⟩ := valid_connect_first maxLen version hs ping ((is_valid_iff version hs).mpr hv)
    exact ⟨s, h⟩
  · intro hv
    obtain ⟨s, h, hc, _⟩ := invalid_400_no_app maxLen version hs ping ((is_valid_false_iff version hs hu).mpr hv)
    exact ⟨s, h, hc⟩

/-- a stream closed by its `Request` event never puts anything to an application and never writes again -/
theorem never_started_never_put (ins : List In) (s : S) (hc : s.closed = true) :
    feedIn s ins = (s, [], []) := by
  induction ins with
  | nil => rfl
  | cons i r ih => simp [feedIn, handle, hc, ih]

theorem never_started_send_noop (token : Bytes → Bytes) (ext : Option Bytes) (s : S) (m : Option Msg) (hc : s.closed = true) :
    appSend token ext s m = (s, [], none) := by
  simp [appSend, hc]

/-! ### the clause F102 broke: every version an HTTP/1 connection can state -/

/-- what the handshake lacks: no key, no `upgrade` token in (the last) `Connection`, or an `Upgrade` header that is not `websocket` -/
def lacksHttp1Part (hs : Headers) : Prop :=
  lastHeader "sec-websocket-key".b hs = none ∨
  (¬ ∃ v, lastHeader "connection".b hs = some v ∧ ∃ t ∈ tokens v, Bytes.lower t = "upgrade".b) ∨
  (∃ u, lastHeader "upgrade".b hs = some u ∧ Bytes.lower u ≠ "websocket".b)

/-- **for EVERY version string that reaches the stream from an h11 connection** (`d.d`: `1.1`, `1.2`, `1.9`, `2.0`, `3.0`, `9.9`,
    `0.9` …) **a handshake without key / without `Connection: upgrade` / without `Upgrade: websocket` is refused** —
    `Handshake(headers, v).is_valid()` is `False`, for every header list (any length, duplicates, any case, ASCII or not).
    Before 97877e1 this held for `v = "1.1"` only (and vacuously below): the tests sat under `elif self.http_version == "1.1"`. -/
theorem h1_incomplete_refused (version : String) (hv : H11Version version) (hs : Headers) (hbad : lacksHttp1Part hs) :
    (Handshake.ofRequest version hs >>= Handshake.isValid) = .ok false := by
  have hm := h11_version_not_multiplexed version hv
  by_cases ha : commaHeadersAscii hs
  · rw [ofRequest_eq version hs ha]
    simp only [bind, Except.bind]
    by_cases hlt : version < "1.1"
    · exact isValid_below version hs hlt
    obtain ⟨hA, hB⟩ := isValid_http1 version hs hlt hm
    rcases hbad with hb | hb | ⟨u, hu, hw⟩
    · exact hA (.inl hb)
    · exact hA (.inr hb)
    · by_cases hk : (lastHeader "sec-websocket-key".b hs).isSome = true
      · by_cases hc : upgradeAsked hs
        · rw [(hB hk hc).2 u hu]; simp [hw]
        · exact hA (.inr hc)
      · exact hA (.inl (by simpa using hk))
  · exact non_ascii_is_400 version hs (not_ascii_exists hs ha)

/-- …so it is answered 400, the stream is closed, no application is started and nothing is ever put to one -/
theorem h1_incomplete_400_no_app (maxLen : Nat) (version : String) (hv : H11Version version) (hs : Headers) (ping : Bool)
    (hbad : lacksHttp1Part hs) (ins : List In) :
    ∃ s, onRequest maxLen version hs true ping = .ok (s, [], errorResponse 400 ++ [.spawnClose]) ∧ s.closed = true ∧
      s.hasAppPut = false ∧ feedIn s ins = (s, [], []) := by
  obtain ⟨s, h, hc, hp⟩ := invalid_400_no_app maxLen version hs ping (h1_incomplete_refused version hv hs hbad)
  exact ⟨s, h, hc, hp, never_started_never_put ins s hc⟩

/-- the request of the report: `GET /ws HTTP/1.2`, `Upgrade: websocket`, `Connection: Upgrade`, version 13 and NO key -/
example : (Handshake.ofRequest "1.2" [("host".b, "x".b), ("upgrade".b, "websocket".b), ("connection".b, "Upgrade".b),
    ("sec-websocket-version".b, "13".b)] >>= Handshake.isValid).toOption = some false := by decide +kernel
example : (Handshake.ofRequest "9.9" [("upgrade".b, "websocket".b), ("connection".b, "Upgrade".b), ("sec-websocket-key".b, "k".b),
    ("sec-websocket-version".b, "13".b)] >>= Handshake.isValid).toOption = some true := by decide +kernel

/-- …while a complete handshake is valid for every version h11 can hand over that is not below 1.1 -/
theorem h1_complete_valid_iff (version : String) (hv : H11Version version) (hs : Headers) :
    (Handshake.ofRequest version hs >>= Handshake.isValid) = .ok true ↔
      (¬ version < "1.1" ∧ lastHeader "sec-websocket-version".b hs = some "13".b ∧ ¬ lacksHttp1Part hs ∧
       (lastHeader "upgrade".b hs).isSome = true ∧ commaHeadersAscii hs) := by
  have hm := h11_version_not_multiplexed version hv
  rw [is_valid_iff]
  unfold validSpec lacksHttp1Part
  constructor
  · rintro ⟨⟨hlt, h13, hr⟩, ha⟩
    obtain ⟨hk, hc, u, hu, hw⟩ := hr hm
    refine ⟨hlt, h13, ?_, by simp [hu], ha⟩
    rintro (hb | hb | ⟨u', hu', hw'⟩)
    · simp [hb] at hk
    · exact hb hc
    · rw [hu] at hu'; cases hu'; exact hw' hw
  · rintro ⟨hlt, h13, hn, hup, ha⟩
    refine ⟨⟨hlt, h13, fun _ => ⟨?_, ?_, ?_⟩⟩, ha⟩
    · cases hk : lastHeader "sec-websocket-key".b hs with
      | none => exact absurd (Or.inl hk) hn
      | some k => rfl
    · exact Classical.byContradiction fun hc => hn (Or.inr (Or.inl hc))
    · cases hu : lastHeader "upgrade".b hs with
      | none => simp [hu] at hup
      | some u =>
        refine ⟨u, rfl, Classical.byContradiction fun hw => hn (Or.inr (Or.inr ⟨u, hu, hw⟩))⟩

/-! ### accept -/

/-- the headers of an accepted handshake, in wire order -/
def acceptHeaders (h : Handshake) (token : Bytes → Bytes) (extAccepts : Option Bytes) (sp : Option Bytes) (vextra : Headers) : Headers :=
  (match sp with | some p => [("sec-websocket-protocol".b, p)] | none => []) ++
  (match h.extensions, extAccepts with
    | some _, some a => if a ≠ [] then [("sec-websocket-extensions".b, a)] else []
    | _, _ => []) ++
  (match h.key with | some k => [("sec-websocket-accept".b, token k)] | none => []) ++
  (if multiplexedVersion h.version then [] else [("upgrade".b, "WebSocket".b), ("connection".b, "Upgrade".b)]) ++
  vextra

def subprotocolOk (h : Handshake) : Option Bytes → Prop
  | none => True
  | some p => ∃ offered, h.subprotocols = some offered ∧ p ∈ offered

private theorem accept_test_eq (version : String) :
    HC.Extracted.WsGuards.http1Accept version = !decide (multiplexedVersion version) := by
  rw [Bool.eq_iff_iff, http1_accept_iff]
  simp

/-- the status of an accepted handshake: 200 on a multiplexed carrier (HTTP/2 extended CONNECT, HTTP/3), **101 for every other
    version string** — every version an HTTP/1 connection can state, not only `1.1` (F102: a `1.2` request used to be answered
    `HTTP/1.1 200` + chunked + raw frames) -/
def acceptStatus (version : String) : Nat := if multiplexedVersion version then 200 else 101

/-- **accept is rendered faithfully**: 101 on HTTP/1 and 200 on HTTP/2 / HTTP/3; the subprotocol header iff one was given;
    the negotiated extensions; the accept token of the client's key; upgrade/connection on HTTP/1; then the
    application's extra headers (validated, in order) -/
theorem accept_rendered (h : Handshake) (token : Bytes → Bytes) (ext : Option Bytes) (sp : Option Bytes)
    (extra vextra : Headers) (hsp : subprotocolOk h sp) (hx : validateExtra extra = .ok vextra) :
    h.accept token ext sp extra = .ok (acceptStatus h.version, acceptHeaders h token ext sp vextra) := by
  unfold Handshake.accept acceptHeaders acceptStatus
  rw [accept_test_eq]
  cases sp with
  | none =>
    simp only [bind, Except.bind, pure, Except.pure, hx]
    -- (`rfl`: the two sides are the same `match`es, compiled once for `accept` and once for `acceptHeaders`)
    by_cases hm : multiplexedVersion h.version <;>
      simp only [hm, decide_true, decide_false, Bool.not_true, Bool.not_false, if_true, if_false, Bool.false_eq_true] <;> rfl
  | some p =>
    obtain ⟨offered, ho, hmem⟩ := hsp
    have : offered.contains p = true := by simpa using hmem
    simp only [bind, Except.bind, pure, Except.pure, hx, ho, this, if_true]
    by_cases hm : multiplexedVersion h.version <;>
      simp only [hm, decide_true, decide_false, Bool.not_true, Bool.not_false, if_true, if_false, Bool.false_eq_true] <;> rfl

/-- **the 101-vs-200 choice for a request that came over an HTTP/1 connection**: whatever minor (or major) version the request
    line states, the accept is a `101` carrying `upgrade: WebSocket` and `connection: Upgrade` — never a 200 followed by frames -/
theorem h1_accept_is_101 (h : Handshake) (hv : H11Version h.version) (token : Bytes → Bytes) (ext : Option Bytes) (sp : Option Bytes)
    (extra vextra : Headers) (hsp : subprotocolOk h sp) (hx : validateExtra extra = .ok vextra) :
    ∃ hdrs, h.accept token ext sp extra = .ok (101, hdrs) ∧
      ("upgrade".b, "WebSocket".b) ∈ hdrs ∧ ("connection".b, "Upgrade".b) ∈ hdrs := by
  have hm := h11_version_not_multiplexed h.version hv
  refine ⟨acceptHeaders h token ext sp vextra, ?_, ?_, ?_⟩
  · rw [accept_rendered h token ext sp extra vextra hsp hx]; simp [acceptStatus, hm]
  · simp [acceptHeaders, hm]
  · simp [acceptHeaders, hm]

/-- a subprotocol the client did not offer: `Exception('Invalid Subprotocol')`, before the extra headers are looked at -/
theorem accept_refused_subprotocol (h : Handshake) (token : Bytes → Bytes) (ext : Option Bytes) (sp : Option Bytes)
    (extra : Headers) (hsp : ¬ subprotocolOk h sp) : h.accept token ext sp extra = .error .exception := by
  cases sp with
  | none => exact absurd trivial hsp
  | some p =>
    unfold Handshake.accept
    cases ho : h.subprotocols with
    | none => rfl
    | some offered =>
      have hm : p ∉ offered := fun hm => hsp ⟨offered, ho, hm⟩
      simp [hm, bind, Except.bind, throw, throwThe, MonadExceptOf.throw]

/-- …then the first unacceptable extra header raises -/
theorem accept_refused_extra (h : Handshake) (token : Bytes → Bytes) (ext : Option Bytes) (sp : Option Bytes)
    (extra : Headers) (e : PyErr) (hsp : subprotocolOk h sp) (hx : validateExtra extra = .error e) :
    h.accept token ext sp extra = .error e := by
  unfold Handshake.accept
  cases sp with
  | none => simp [bind, Except.bind, pure, Except.pure, hx]
  | some p =>
    obtain ⟨offered, ho, hmem⟩ := hsp
    simp [bind, Except.bind, pure, Except.pure, hx, ho, hmem]

/-- **…and only then**: accept succeeds iff the subprotocol (if any) was offered by the client and every extra
    header is acceptable; in particular an unoffered subprotocol or a `sec-websocket-protocol` / pseudo extra header
    is refused -/
theorem accept_ok_iff (h : Handshake) (token : Bytes → Bytes) (ext : Option Bytes) (sp : Option Bytes) (extra : Headers) :
    (∃ r, h.accept token ext sp extra = .ok r) ↔ (subprotocolOk h sp ∧ ∃ vextra, validateExtra extra = .ok vextra) := by
  constructor
  · intro ⟨r, hr⟩
    by_cases hsp : subprotocolOk h sp
    · cases hx : validateExtra extra with
      | error e => rw [accept_refused_extra h token ext sp extra e hsp hx] at hr; cases hr
      | ok v => exact ⟨hsp, v, rfl⟩
    · rw [accept_refused_subprotocol h token ext sp extra hsp] at hr; cases hr
  · intro ⟨hsp, vextra, hx⟩
    exact ⟨_, accept_rendered h token ext sp extra vextra hsp hx⟩

/-- an extra header whose name, as it would be sent (stripped), is `sec-websocket-protocol`, a pseudo header, empty or not a
    token makes the accept fail, wherever it stands in the list -/
theorem forbidden_extra_refused (pre : Headers) (x : Header) (post : Headers)
    (hx : Bytes.strip x.1 = "sec-websocket-protocol".b ∨ nameRefused (Bytes.strip x.1) = true) :
    ∃ e, validateExtra (pre ++ x :: post) = .error e := by
  cases h : validateExtra (pre ++ x :: post) with
  | error e => exact ⟨e, rfl⟩
  | ok r =>
    -- the loop got as far as `x` and took it: its name, stripped, is neither `sec-websocket-protocol` nor refused
    have hx' : ∃ r', validateExtra (x :: post) = .ok r' := by
      induction pre generalizing r with
      | nil => exact ⟨r, h⟩
      | cons a p ih =>
        obtain ⟨_, _, r', _, _, _, hr, _⟩ := validateExtra_cons_ok.mp h
        exact ih r' hr
    obtain ⟨r', hr'⟩ := hx'
    obtain ⟨n, _, _, hn, hproto, _⟩ := validateExtra_cons_ok.mp hr'
    obtain ⟨hp, hnr⟩ := validateNameBytes_ok hn
    obtain ⟨rfl, _⟩ := validatePartBytes_ok hp
    rcases hx with hx | hx
    · exact absurd hx hproto
    · rw [hx] at hnr; cases hnr

example : ∃ e, validateExtra [("x-a".b, "1".b), (" :status".b, "200".b)] = .error e := forbidden_extra_refused [("x-a".b, "1".b)] _ [] (Or.inr (by decide +kernel))

/-- **`websocket.accept` through `app_send`**: response head with exactly the rendered status and headers, one access
    record, state CONNECTED with an OPEN connection -/
theorem accept_sent (token : Bytes → Bytes) (ext : Option Bytes) (s : S) (sp : Option Bytes) (extra vextra : Headers)
    (hc : s.closed = false) (hst : s.st = .handshake) (hsp : subprotocolOk s.hs sp) (hx : validateExtra extra = .ok vextra) :
    appSend token ext s (some (.accept sp extra)) =
      ({ s with st := .connected, hs := { s.hs with accepted := true }, conn := some .open },
       [.response (acceptStatus s.hs.version) (acceptHeaders s.hs token ext sp vextra),
        .access (acceptStatus s.hs.version)] ++ (if s.pingInterval then [.spawnPings] else []), none) := by
  simp [appSend, hc, hst, accept_rendered s.hs token ext sp extra vextra hsp hx]

/-- **a refused accept is a no-op**: the exception goes to the application, the state and the wire are untouched
    (the application can still answer with `websocket.close` → 403) -/
theorem accept_refused_is_noop (token : Bytes → Bytes) (ext : Option Bytes) (s : S) (sp : Option Bytes) (extra : Headers)
    (hc : s.closed = false) (hst : s.st = .handshake)
    (hbad : ¬ (subprotocolOk s.hs sp ∧ ∃ vextra, validateExtra extra = .ok vextra)) :
    ∃ e, appSend token ext s (some (.accept sp extra)) = (s, [], some e) := by
  cases ha : s.hs.accept token ext sp extra with
  | ok r => exact absurd ((accept_ok_iff s.hs token ext sp extra).mp ⟨r, ha⟩) hbad
  | error e => exact ⟨e, by simp [appSend, hc, hst, ha]⟩

/-! ### the `headers` of `websocket.accept` are an *iterable*: the rendering does not depend on the container

ASGI types them `Iterable[[bytes, bytes]]`: a generator / iterator / map object yields its pairs once.  `HC/Stream/WsIter.lean`
runs the traversals `Handshake.accept` performs over `additional_headers`, in the source's order (`WsGuards.acceptExtraPasses`,
extracted), each seeing what the previous one left.  A second traversal of a one-shot iterable sees nothing (seeded change
C11-12: a checking loop, then `headers.extend(build_and_validate_headers(additional_headers))` - the accept goes through, the
extra headers are gone). -/

/-- a checking loop followed by `build_and_validate_headers` over the SAME pairs succeeds exactly when the single loop does, with the same headers -/
theorem check_then_emit (l r : Headers) :
    (checkExtra l = .ok () ∧ emitExtra l = .ok r) ↔ validateExtra l = .ok r := by
  induction l generalizing r with
  | nil => simp [checkExtra, emitExtra, validateExtra]
  | cons x rest ih =>
    simp only [checkExtra, emitExtra, validateExtra]
    cases validateNameBytes x.1 with
    | error e => simp [bind, Except.bind]
    | ok n =>
      by_cases hp : (n == "sec-websocket-protocol".b) = true
      · simp [hp]
      · simp only [hp, Bool.false_eq_true, if_false, Except.bind_eq_ok, ← ih, pure, Except.pure, Except.ok.injEq]
        constructor
        · rintro ⟨hc, a, rfl, v, hv, r', hr, rfl⟩; exact ⟨v, hv, r', ⟨hc, hr⟩, rfl⟩
        · rintro ⟨v, hv, r', ⟨hc, hr⟩, rfl⟩; exact ⟨hc, _, rfl, v, hv, r', hr, rfl⟩

/-- pass lists under which a re-iterable copy is rendered as the single loop renders it -/
def listFaithful : List ExtraPass → Bool
  | [.checkEmit] => true
  | [.check, .emit] => true
  | .materialise :: ps => listFaithful ps
  | _ => false

/-- pass lists under which EVERY iterable is rendered as the single loop renders its items: one traversal that checks and
    emits, or a copy (`list(x)`) before anything else looks at it -/
def faithful : List ExtraPass → Bool
  | [.checkEmit] => true
  | .materialise :: ps => listFaithful ps
  | _ => false

theorem listFaithful_sound (ps : List ExtraPass) (hf : listFaithful ps = true) (l r : Headers) :
    runExtraPasses ps { items := l, oneShot := false } [] = .ok r ↔ validateExtra l = .ok r := by
  induction ps with
  | nil => simp [listFaithful] at hf
  | cons p ps ih =>
    cases p with
    | materialise => simpa [runExtraPasses] using ih (by simpa [listFaithful] using hf)
    | emit => simp [listFaithful] at hf
    | checkEmit =>
      cases ps with
      | nil =>
        simp only [runExtraPasses]
        cases validateExtra l <;> simp
      | cons _ _ => simp [listFaithful] at hf
    | check =>
      match ps, hf with
      | [.emit], _ =>
        rw [← check_then_emit]
        simp only [runExtraPasses, Iter.next]
        cases hc : checkExtra l with
        | error e => simp
        | ok u => cases u; cases he : emitExtra l <;> simp [he]

theorem faithful_sound (ps : List ExtraPass) (hf : faithful ps = true) (it : Iter) (r : Headers) :
    runExtraPasses ps it [] = .ok r ↔ validateExtra it.items = .ok r := by
  match ps, hf with
  | [.checkEmit], _ =>
    simp only [runExtraPasses]
    cases validateExtra it.items <;> simp
  | .materialise :: ps, hf =>
    simpa [runExtraPasses] using listFaithful_sound ps (by simpa [faithful] using hf) it.items r

theorem accept_extra_any_iterable (it : Iter) (r : Headers) :
    acceptExtra it = .ok r ↔ validateExtra it.items = .ok r :=
  faithful_sound WsGuards.acceptExtraPasses (by decide) it r

example : runExtraPasses [.check, .emit] { items := [("x-a".b, "1".b)], oneShot := true } [] = .ok [] := by decide +kernel
example : runExtraPasses [.check, .emit] { items := [("x-a".b, "1".b)], oneShot := false } [] = .ok [("x-a".b, "1".b)] := by decide +kernel

/-- the server's own handshake headers do not depend on the extra headers, which come last -/
theorem accept_split (h : Handshake) (token : Bytes → Bytes) (ext : Option Bytes) (sp : Option Bytes) (extra : Headers) :
    h.accept token ext sp extra =
      (match h.accept token ext sp [] with
       | .error e => .error e
       | .ok (st, own) =>
         match validateExtra extra with
         | .error e => .error e
         | .ok x => .ok (st, own ++ x)) := by
  by_cases hsp : subprotocolOk h sp
  · rw [accept_rendered h token ext sp [] [] hsp rfl]
    cases hx : validateExtra extra with
    | error e => exact accept_refused_extra h token ext sp extra e hsp hx
    | ok v => rw [accept_rendered h token ext sp extra v hsp hx]; simp [acceptHeaders]
  · rw [accept_refused_subprotocol h token ext sp extra hsp, accept_refused_subprotocol h token ext sp [] hsp]

/-- **the accept does not depend on the container of the extra headers**: whatever iterable the application gives as `headers`
    (list, tuple, generator, iterator, map object), `Handshake.accept` returns what it returns for the list of its items -/
theorem accept_any_iterable (h : Handshake) (token : Bytes → Bytes) (ext : Option Bytes) (sp : Option Bytes) (it : Iter)
    (r : Nat × Headers) :
    h.acceptIter token ext sp it = .ok r ↔ h.accept token ext sp it.items = .ok r := by
  rw [accept_split h token ext sp it.items]
  unfold Handshake.acceptIter
  cases h.accept token ext sp [] with
  | error e => simp
  | ok so =>
    obtain ⟨st, own⟩ := so
    simp only
    cases hx : validateExtra it.items with
    | error e =>
      cases ha : acceptExtra it with
      | error e' => simp
      | ok x => exact absurd ((accept_extra_any_iterable it x).mp ha) (by simp [hx])
    | ok x =>
      simp [(accept_extra_any_iterable it x).mpr hx]

/-- **the token is the RFC 6455 one** when the model's `token` parameter is instantiated with the Lean SHA-1/base64
    (as `lean/Driver/C11.lean` does): `base64(sha1(key ++ "258EAFA5-E914-47DA-95CA-C5AB0DC85B11"))` -/
theorem accept_token_rfc6455 (h : Handshake) (ext : Option Bytes) (sp : Option Bytes) (extra : Headers) (k : Bytes)
    (st : Nat) (hdrs : Headers) (hk : h.key = some k)
    (hok : h.accept HC.Pure.Sha1.acceptToken ext sp extra = .ok (st, hdrs)) :
    ("sec-websocket-accept".b, HC.Pure.Sha1.base64 (HC.Pure.Sha1.sha1 (k ++ "258EAFA5-E914-47DA-95CA-C5AB0DC85B11".b))) ∈ hdrs := by
  obtain ⟨hsp, vextra, hx⟩ := (accept_ok_iff h _ ext sp extra).mp ⟨_, hok⟩
  rw [accept_rendered h _ ext sp extra vextra hsp hx] at hok
  cases hok
  simp [acceptHeaders, hk, HC.Pure.Sha1.acceptToken, HC.Pure.Sha1.guid]

/-- the RFC's own example, end to end through `Handshake.accept` -/
example : (Handshake.accept { version := "1.1", key := some "dGhlIHNhbXBsZSBub25jZQ==".b, subprotocols := some ["chat".b, "superchat".b] }
    HC.Pure.Sha1.acceptToken none (some "chat".b) [("x-a".b, " 1 ".b)]).toOption =
    some (101, [("sec-websocket-protocol".b, "chat".b), ("sec-websocket-accept".b, "s3pPLMBiTxaQ9kYGzzhZRbK+xOo=".b),
      ("upgrade".b, "WebSocket".b), ("connection".b, "Upgrade".b), ("x-a".b, "1".b)]) := by
  rw [accept_rendered _ _ none (some "chat".b) _ [("x-a".b, "1".b)] ⟨_, rfl, by decide +kernel⟩ (by decide +kernel)]
  simp [acceptHeaders, acceptStatus, HC.Pure.Sha1.rfc6455_sample, multiplexedVersion, Except.toOption]

example : (Handshake.accept { version := "2", subprotocols := some ["chat".b] } (fun _ => []) none (some "evil".b) []) = .error .exception := by decide +kernel
example : (Handshake.accept { version := "2" } (fun _ => []) none none [("sec-websocket-protocol".b, "chat".b)]) = .error .exception := by decide +kernel
example : (Handshake.accept { version := "2" } (fun _ => []) none none []) = .ok (200, []) := by decide +kernel

/-! ### close → 403, HTTP-response extension → exactly that response -/

theorem close_403 (token : Bytes → Bytes) (ext : Option Bytes) (s : S) (code : CloseCode) (reason : Option HV)
    (hc : s.closed = false) (hst : s.st = .handshake) :
    appSend token ext s (some (.close code reason)) = ({ s with st := .httpClosed }, errorResponse 403, none) := by
  simp [appSend, hc, hst]

/-- body messages of a denial response: every chunk but the last with `more_body=True` -/
def bodyMsgs : List Bytes → List (Option Msg)
  | [] => [some (.respBody none false)]
  | [c] => [some (.respBody (some (.bytes c)) false)]
  | c :: rest => some (.respBody (some (.bytes c)) true) :: bodyMsgs rest

def denialMsgs (status : Nat) (hs : List (HV × HV)) (chunks : List Bytes) : List (Option Msg) :=
  some (.respStart (some status) (some hs)) :: bodyMsgs chunks

def bodyEvs : List Bytes → List Ev
  | [] => [.body []]
  | cs => cs.map Ev.body

/-- the body messages of a denial response, sent in HANDSHAKE (the head `e1` goes out in front of the first of them) or in RESPONSE -/
private theorem feed_bodies (token : Bytes → Bytes) (ext : Option Bytes) (status : Nat) (hdrs : Option (List (HV × HV))) :
    ∀ (chunks : List Bytes) (s s1 : S) (e1 : List Ev), s.closed = false → s.st = .handshake ∨ s.st = .response →
      s.response = some (some status, hdrs) → denialHead s status hdrs = .ok (s1, e1) →
      (feed token ext s (bodyMsgs chunks)).2 =
        e1 ++ (if Guards.suppressBody "GET" status then [] else bodyEvs chunks) ++ [.endBody, .access status] ∧
      (feed token ext s (bodyMsgs chunks)).1.st = .httpClosed := by
  intro chunks
  induction chunks with
  | nil =>
    intro s s1 e1 hc hor hr hd
    by_cases hs : Guards.suppressBody "GET" status = true <;>
      simp [bodyMsgs, feed, appSend, hc, hor, hr, sendRejection, bodyBytes, hd, hs, bodyEvs]
  | cons c rest ih =>
    intro s s1 e1 hc hor hr hd
    cases rest with
    | nil =>
      by_cases hs : Guards.suppressBody "GET" status = true <;>
        simp [bodyMsgs, feed, appSend, hc, hor, hr, sendRejection, bodyBytes, hd, hs, bodyEvs]
    | cons c2 rest2 =>
      have step : appSend token ext s (some (.respBody (some (.bytes c)) true)) =
          (s1, e1 ++ (if Guards.suppressBody "GET" status then [] else [Ev.body c]), none) := by
        simp [appSend, hc, hor, hr, sendRejection, bodyBytes, hd]
      -- after the first message the stream is in RESPONSE and the head is out
      have hs1 : s1.closed = false ∧ s1.st = .response ∧ s1.response = some (some status, hdrs) ∧
          denialHead s1 status hdrs = .ok (s1, []) := by
        rcases denialHead_cases s status hdrs with ⟨e, h⟩ | ⟨hst, vh, h⟩ | ⟨hst, h⟩ <;> rw [h] at hd <;> cases hd
        · exact ⟨hc, rfl, hr, by simp [denialHead]⟩
        · exact ⟨hc, hor.resolve_left hst, hr, h⟩
      obtain ⟨ih1, ih2⟩ := ih s1 s1 [] hs1.1 (.inr hs1.2.1) hs1.2.2.1 hs1.2.2.2
      have hb : bodyMsgs (c :: c2 :: rest2) = some (.respBody (some (.bytes c)) true) :: bodyMsgs (c2 :: rest2) := rfl
      rw [hb]
      simp only [feed, step]
      refine ⟨?_, ih2⟩
      rw [ih1]
      by_cases hs : Guards.suppressBody "GET" status = true <;> simp [hs, bodyEvs]

/-- **the denial response is rendered exactly**: the given status, the given headers (validated, in order), the body
    chunks in order (none for 1xx / 204 / 304), end-of-body and one access record exactly once, then HTTPCLOSED -/
theorem http_response_exact (token : Bytes → Bytes) (ext : Option Bytes) (s : S) (status : Nat) (hs : List (HV × HV))
    (vh : Headers) (chunks : List Bytes) (hc : s.closed = false) (hst : s.st = .handshake)
    (hv : validateHeaders hs = .ok vh) :
    (feed token ext s (denialMsgs status hs chunks)).2 =
      [.response status vh] ++ (if Guards.suppressBody "GET" status then [] else bodyEvs chunks) ++ [.endBody, .access status] ∧
    (feed token ext s (denialMsgs status hs chunks)).1.st = .httpClosed := by
  have hstart : appSend token ext s (some (.respStart (some status) (some hs))) =
      ({ s with response := some (some status, some hs) }, [], none) := by simp [appSend, hc, hst]
  simp only [denialMsgs, feed, hstart, List.nil_append]
  exact feed_bodies token ext status (some hs) chunks _ { s with response := some (some status, some hs), st := .response } _
    hc (.inl hst) rfl (by simp [denialHead, hst, hv])

example : (feed (fun _ => []) none { hs := { version := "1.1" }, buffer := { maxLength := 9 }, hasAppPut := true }
    (denialMsgs 401 [(.bytes "www-authenticate".b, .bytes "Basic".b)] ["no".b, "pe".b])).2 =
    [.response 401 [("www-authenticate".b, "Basic".b)], .body "no".b, .body "pe".b, .endBody, .access 401] := by decide +kernel

/-! ### the disconnect code -/

/-- **what `handle(StreamClosed)` tells the application**: 1000 if the ASGI state is CLOSED / HTTPCLOSED (the
    application closed, or answered with a denial response); otherwise the code of a client-initiated close if there
    was one; otherwise 1006.  Exactly one `websocket.disconnect`, and the stream is closed afterwards -/
theorem disconnect_code (s : S) (hc : s.closed = false) (hp : s.hasAppPut = true) :
    handle s .streamClosed =
      ({ s with closed := true },
       [.disconnect (if s.st = .closed ∨ s.st = .httpClosed then 1000 else s.clientCloseCode.getD 1006)], [], none) := by
  by_cases h : s.st = .closed ∨ s.st = .httpClosed
  · have h' : s.st = .httpClosed ∨ s.st = .closed := h.symm
    simp [handle, hc, hp, h, h']
  · have h' : ¬ (s.st = .httpClosed ∨ s.st = .closed) := fun x => h x.symm
    simp [handle, hc, hp, h, h']

/-- …and never a second one -/
theorem disconnect_once (s : S) (hc : s.closed = false) (ins : List In) :
    (feedIn (handle s .streamClosed).1 ins).2.1 = [] := by
  have : (handle s .streamClosed).1.closed = true := by simp [handle, hc]
  rw [never_started_never_put ins _ this]

/-- a client-initiated close is echoed with the client's code, the code is kept, and the stream asks to be closed -/
theorem client_close_echoed (s : S) (c : Nat) (hopen : s.conn = some .open) :
    handleEvents s [.close c] =
      ({ s with conn := some .closed, clientCloseCode := some c }, [], [.data (.close c), .streamClosed], none) := by
  simp [handleEvents, hopen, connRecvClose, sendWs, connSend]

/-- **client-initiated close: the application is told the client's code** (1005 when the close frame carried none —
    that is the code wsproto yields for it) -/
theorem disconnect_code_client_close (s : S) (c : Nat) (hc : s.closed = false) (hp : s.hasAppPut = true)
    (hst : s.st = .connected) (hopen : s.conn = some .open) :
    (handleEvents s [.close c]).2 = ([], [.data (.close c), .streamClosed], none) ∧
    (handle (handleEvents s [.close c]).1 .streamClosed).2.1 = [.disconnect c] := by
  rw [client_close_echoed s c hopen]
  simp [handle, hc, hp, hst]

/-- **client-initiated close whose echo can no longer be written** (the client sent its close frame and vanished): the
    failed write re-enters the protocol, `StreamClosed` is handled while the echo is still being awaited — and the
    application is nevertheless told the client's code, because the source records the code *before* it awaits the echo
    (`WsGuards.closeCodeBeforeEcho`, the statement order under `if … REMOTE_CLOSING:` as extracted) -/
theorem disconnect_code_client_close_echo_lost (s : S) (c : Nat) (hc : s.closed = false) (hp : s.hasAppPut = true)
    (hst : s.st = .connected) (hopen : s.conn = some .open) :
    (handle (atCloseEcho s c) .streamClosed).2.1 = [.disconnect c] ∧
    (handleCloseEchoLost s c).2.1 = [.disconnect c] ∧ (handleCloseEchoLost s c).1.closed = true := by
  have hmid : (handle (atCloseEcho s c) .streamClosed) =
      ({ atCloseEcho s c with closed := true }, [.disconnect c], [], none) := by
    simp [handle, atCloseEcho, hc, hp, hst, hopen, connRecvClose, HC.Extracted.WsGuards.closeCodeBeforeEcho]
  refine ⟨by rw [hmid], ?_, ?_⟩
  · simp only [handleCloseEchoLost, hmid]
    rw [client_close_echoed s c hopen]
    simp
  · simp only [handleCloseEchoLost, hmid]

/-- the statements under `if … REMOTE_CLOSING:`, in the order the extractor reads them off the source -/
theorem close_code_recorded_before_echo : HC.Extracted.WsGuards.closeBranch = ["recordCode", "echo"] := by decide

/-- **after the application's own `websocket.close`: 1000** (close frame with the application's code `k` — the value of
    `int(code)`, default 1000 — for every close message a frame can be built from: `closeArgs … = .ok k`) -/
theorem app_close_1000 (token : Bytes → Bytes) (ext : Option Bytes) (s : S) (code : CloseCode) (reason : Option HV) (k : Nat)
    (hc : s.closed = false) (hp : s.hasAppPut = true) (hst : s.st = .connected) (hopen : s.conn = some .open)
    (hk : closeArgs s code reason = .ok k) :
    (appSend token ext s (some (.close code reason))).2 = ([.data (.close k), .endData], none) ∧
    (handle (appSend token ext s (some (.close code reason))).1 .streamClosed).2.1 = [.disconnect 1000] := by
  simp [appSend, hc, hst, hk, sendWs, hopen, connSend, handle, hp]

/-- the hypothesis is satisfiable: no code (1000), any code that fits a close frame, with a str reason or none -/
example (s : S) (hopen : s.conn = some .open) : closeArgs s .absent none = .ok 1000 := by simp [closeArgs, CloseCode.value, hopen, connSend, closeFrame]
example (s : S) (hopen : s.conn = some .open) : closeArgs s (.int 3000) (some (.str "bye")) = .ok 3000 := by
  simp [closeArgs, CloseCode.value, hopen, connSend, closeFrame]

/-- **simultaneous close** (the application closed first, then the client's close frame arrives): no second close
    frame, and the application is told 1000 -/
theorem simultaneous_close_1000 (token : Bytes → Bytes) (ext : Option Bytes) (s : S) (code : CloseCode) (reason : Option HV) (k c : Nat)
    (hc : s.closed = false) (hp : s.hasAppPut = true) (hst : s.st = .connected) (hopen : s.conn = some .open)
    (hk : closeArgs s code reason = .ok k) :
    let s1 := (appSend token ext s (some (.close code reason))).1
    (handleEvents s1 [.close c]).2 = ([], [.streamClosed], none) ∧
    (handle (handleEvents s1 [.close c]).1 .streamClosed).2.1 = [.disconnect 1000] := by
  simp [appSend, hc, hst, hk, sendWs, hopen, connSend, handleEvents, connRecvClose, handle, hp]

/-- **connection lost while CONNECTED (EOF / reset, no close frame from the client): 1006** -/
theorem lost_1006 (s : S) (hc : s.closed = false) (hp : s.hasAppPut = true) (hst : s.st = .connected)
    (hn : s.clientCloseCode = none) : (handle s .streamClosed).2.1 = [.disconnect 1006] := by
  simp [handle, hc, hp, hst, hn]

/-- connection lost before the application answered the handshake: 1006 as well -/
theorem lost_in_handshake_1006 (s : S) (hc : s.closed = false) (hp : s.hasAppPut = true) (hst : s.st = .handshake)
    (hn : s.clientCloseCode = none) : (handle s .streamClosed).2.1 = [.disconnect 1006] := by
  simp [handle, hc, hp, hst, hn]

/-- the server's own 1009 close echoed by the client is *not* a client-initiated close: 1006 -/
theorem server_1009_then_echo_1006 (s : S) (hc : s.closed = false) (hp : s.hasAppPut = true) (hst : s.st = .connected)
    (hl : s.conn = some .localClosing) (hn : s.clientCloseCode = none) :
    (handle (handleEvents s [.close 1009]).1 .streamClosed).2.1 = [.disconnect 1006] := by
  simp [handleEvents, hl, connRecvClose, handle, hc, hp, hst, hn]

/-- a frame wsproto cannot parse is not a close by the client: no close frame is echoed (the library's state did not
    move), the stream asks to be closed, and the application is told 1006 -/
theorem parse_failure_1006 (s : S) (c : Nat) (hc : s.closed = false) (hp : s.hasAppPut = true) (hst : s.st = .connected)
    (hopen : s.conn = some .open) (hn : s.clientCloseCode = none) :
    (handleEvents s [.failed c]).2 = ([], [.streamClosed], none) ∧
    (handle (handleEvents s [.failed c]).1 .streamClosed).2.1 = [.disconnect 1006] := by
  simp [handleEvents, hopen, handle, hc, hp, hst, hn]

/-- `client_close_code` is only ever set by a close frame: nothing the application sends touches it -/
theorem appSend_keeps_close_code (token : Bytes → Bytes) (ext : Option Bytes) (s : S) (m : Option Msg) :
    (appSend token ext s m).1.clientCloseCode = s.clientCloseCode := by
  have h := sent_appSend token ext s m
  generalize appSend token ext s m = o at h ⊢
  cases h <;> (try cases ‹WsSent ..›) <;> (try cases ‹Rejected ..›) <;> rfl

/-! ### the two closing sequences overlap: the application's `websocket.close` is suspended in a send

`await self.send(Data(…))` / `await self.send(EndData(…))` can suspend the application's task (transport back-pressure,
HTTP/2 flow control); the reader task handles the client's close frame, or the loss of the connection, meanwhile - on the
stream as the statements before that await left it.  The statements and their order are the source's
(`AppExit.wsCloseBranch`, extracted on every run), run by `Ws.runCloseOverlap` (HC/Stream/WsOverlap.lean). -/

/- running the source's branch statement by statement, with the reader's inputs handled at the `p`-th await -/
section
attribute [local simp] runCloseOverlap HC.Extracted.AppExit.wsCloseBranch ovStep Ov.build Ov.await feedIn handle connSend

/-- in the source's `websocket.close` branch no await is reached, once wsproto has produced the close frame, with `self.state`
    not yet CLOSED -/
theorem app_close_state_before_write :
    HC.Stream.AppExit.closedBeforeYield HC.Extracted.AppExit.wsCloseBranch = true := by decide

/-- without an overlap (`p` beyond the last await) the statement-by-statement run of the source's branch is the atomic step of
    the stream model -/
theorem close_branch_is_appSend (token : Bytes → Bytes) (ext : Option Bytes) (s : S) (code : CloseCode) (reason : Option HV) (k p : Nat)
    (hc : s.closed = false) (hst : s.st = .connected) (hopen : s.conn = some .open) (hk : closeArgs s code reason = .ok k) (ins : List In) :
    let o := runCloseOverlap HC.Extracted.AppExit.wsCloseBranch s k (p + 2) ins
    (o.s, o.evs, o.puts, o.fired) =
      ((appSend token ext s (some (.close code reason))).1, (appSend token ext s (some (.close code reason))).2.1, [], false) := by
  simp [hopen, appSend, hc, hst, hk, sendWs]

/-- **simultaneous close, the sequences overlapping**: the application's `websocket.close` is suspended in its `p`-th awaited
    send - whichever that is - while the client's own close frame arrives and the protocol, told `StreamClosed` by the
    reader, closes the stream; then the write completes (and, had nothing overlapped, the protocol closes the stream after
    it).  The application that closed is told **1000**, exactly once - never 1006: both close frames were sent, nothing was
    lost.  For every code of either side and every `p`. -/
theorem app_close_overlapped_client_close_1000 (s : S) (k c p : Nat) (hc : s.closed = false) (hp : s.hasAppPut = true)
    (hst : s.st = .connected) (hopen : s.conn = some .open) (hacc : s.hs.accepted = true) :
    let o := runCloseOverlap HC.Extracted.AppExit.wsCloseBranch s k p [.data [.close c], .streamClosed]
    o.puts ++ (handle o.s .streamClosed).2.1 = [.disconnect 1000] ∧ (handle o.s .streamClosed).1.closed = true := by
  match p with
  | 0 | 1 => simp [hopen, handleEvents, connRecvClose, hc, hp, hacc]
  | p + 2 => simp [hopen, hc, hp]

/-- …and what the protocol is handed in that overlap: the close frame, the reader's `StreamClosed`, the end of the data - no
    second close frame -/
theorem app_close_overlapped_events (s : S) (k c : Nat) (hc : s.closed = false)
    (hst : s.st = .connected) (hopen : s.conn = some .open) (hacc : s.hs.accepted = true) :
    (runCloseOverlap HC.Extracted.AppExit.wsCloseBranch s k 0 [.data [.close c], .streamClosed]).evs =
      [.data (.close k), .streamClosed, .endData] := by
  simp [hopen, handleEvents, connRecvClose, hc, hacc]

/-- **the connection is lost while the application's `websocket.close` is being written**: exactly one `websocket.disconnect`,
    with one of the two codes the statement allows here - 1000 (its own close) or 1006 (lost).  (The pinned source says 1000:
    `self.state` is CLOSED by then, see the `example` below.) -/
theorem app_close_overlapped_lost (s : S) (k p : Nat) (hc : s.closed = false) (hp : s.hasAppPut = true)
    (hst : s.st = .connected) (hopen : s.conn = some .open) (hn : s.clientCloseCode = none) :
    let o := runCloseOverlap HC.Extracted.AppExit.wsCloseBranch s k p [.streamClosed]
    ∃ code, o.puts ++ (handle o.s .streamClosed).2.1 = [.disconnect code] ∧ (code = 1000 ∨ code = 1006) := by
  match p with
  | 0 | 1 => simp [hopen, hc, hp, hn]
  | p + 2 => simp [hopen, hc, hp, hn]

end

def closeWitness : S :=
  { st := .connected, hs := { version := "1.1", accepted := true }, conn := some .open, buffer := { maxLength := 9 },
    hasAppPut := true }

/-- the scenario that used to report 1006 (F13, repaired by `fix: websocket.disconnect reports the client's close code
    after a client initiated close`) -/
example : (handle (handleEvents closeWitness [.close 1001]).1 .streamClosed).2.1 = [.disconnect 1001] := by decide +kernel
example : (handle (handleEvents closeWitness [.close 1005]).1 .streamClosed).2.1 = [.disconnect 1005] := by decide +kernel
example : (handle closeWitness .streamClosed).2.1 = [.disconnect 1006] := by decide +kernel
/-- the order the seeded change C11-13 had ("mark closed once the frame has gone out"): the client's close frame handled during
    the write finds the stream CONNECTED and no client code - 1006 for a completed closing handshake -/
example : (runCloseOverlap [.buildFrame, .sendData, .sendEndData, .setState .closed] closeWitness 1000 0 [.data [.close 4000], .streamClosed]).puts
    = [.disconnect 1006] := by decide +kernel
example : (runCloseOverlap HC.Extracted.AppExit.wsCloseBranch closeWitness 1000 0 [.data [.close 4000], .streamClosed]).puts
    = [.disconnect 1000] := by decide +kernel
example : (runCloseOverlap HC.Extracted.AppExit.wsCloseBranch closeWitness 1000 1 [.streamClosed]).puts = [.disconnect 1000] := by decide +kernel

end HC.Props.C11
