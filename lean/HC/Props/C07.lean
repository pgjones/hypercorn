import HC.Conn.Inv
/-!
# C07 — idle connections time out, busy ones do not, dead ones are released

Theorems about the timed connection model `HC.Conn.Server` for every configuration (protocol, worker, queue capacity,
`keep_alive_timeout`) and every operation sequence.  `busy` = some registered stream the peer has not abandoned has a
complete head and an unfinished response, or is a WebSocket that is not closed.
-/
namespace HC.Props.C07
open HC.Conn HC.Extracted.ConnGuards

/-- the shape of the source the model was written against, as extracted: a change there regenerates one of these (or breaks the
    extractor) and this theorem fails.  `httpStreamIdle`, `wsIdleStates` and the Boolean tests occur in `HC.Conn.Server` and are
    evaluated by the proofs; the `…UpdatedSites`, `…UpdatedDrivesTimer`, `…IdleFireClosesProtocolThenTransport`, `h2IdleCountsBuffered`
    and `trioCloseToleratesBroken/Closed` occur in no definition: they record which statements send `Updated`, and in what order the
    idle task and `_close()` act -/
theorem guards_as_extracted :
    httpStreamIdle = false ∧ wsIdleStates = ["CLOSED", "HTTPCLOSED"] ∧
    h11UpdatedSites = ["_handle_events:False", "_maybe_recycle:True"] ∧
    h2UpdatedSites = ["_handle_events:self.idle", "_handle_events:self.idle", "stream_send:idle"] ∧
    asyncioUpdatedDrivesTimer = true ∧ trioUpdatedDrivesTimer = true ∧
    asyncioIdleFireClosesProtocolThenTransport = true ∧ trioIdleFireClosesProtocolThenTransport = true ∧
    asyncioReaderEndStopsIdle = true ∧ trioReaderEndStopsIdle = true ∧
    h11ClosedSetsFlag = true ∧ h11ClosedClosesStream = true ∧ h11ClosedReleasesReader = true ∧ pausedBreaksWhenClosed = true ∧
    h2StreamClosedIgnoresUnknown = true ∧ h2StreamClosedAlwaysUpdates = true ∧ h2IdleCountsBuffered = true ∧
    priorIdleBeforeData = true ∧ wrapperUpdatedSites = ["handle:True"] ∧ h11RecycleIdleUnconditional = true ∧
    trioCloseToleratesBusy = true ∧ trioCloseToleratesBroken = true ∧ trioCloseToleratesClosed = true ∧ trioCloseAlwaysCloses = true := by decide +kernel

/-- the expression each worker hands to `asyncio.wait_for` / `trio.move_on_after` around the idle task's wait is the configured
    `keep_alive_timeout` itself, for every value of it - 0 is a timeout of 0 (expires at once), not "no timeout" -/
theorem idle_wait_is_keep_alive_timeout (T : Nat) : asyncioIdleWait T = some T ∧ trioIdleWait T = some T := ⟨rfl, rfl⟩

/-- … hence in every configuration (protocol, worker, capacity, every `keep_alive_timeout ≥ 0`) the idle task's wait is limited
    by exactly that value -/
theorem wait_is_configured_timeout (c : Cfg) : c.wait = some c.T := Cfg.wait_eq c

/-- whenever the idle timer is armed no request is in progress and no WebSocket is open,
    so the timer never closes a busy connection -/
theorem timer_armed_implies_not_busy (cfg : Cfg) (ops : List Op) (s : St) (hr : run (init cfg) ops = some s)
    (ha : s.timer.isSome = true) : s.busy = false :=
  (reachable_inv cfg ops s hr).armed ha

/-- the deadline of an armed timer is exactly (the instant it was started) + keep_alive_timeout, and the clock has not passed it -/
theorem deadline_exact (cfg : Cfg) (ops : List Op) (s : St) (hr : run (init cfg) ops = some s) (d : Nat) (hd : s.timer = some d) :
    d = s.armedAt + s.cfg.T ∧ s.now ≤ d :=
  ⟨(reachable_inv cfg ops s hr).dl d hd, (reachable_inv cfg ops s hr).nl d hd⟩

/-- an armed timer on a connection without registered streams fires at exactly its deadline - not
    before (the step is disabled), not after (time cannot pass it) - and closes the transport at that instant;
    when shutdown has begun it fires at once and no time may pass first -/
theorem idle_close_time (cfg : Cfg) (ops : List Op) (s : St) (hr : run (init cfg) ops = some s) (d : Nat)
    (hd : s.timer = some d) (hl : s.live = []) (hc : s.closedByServer = false) (hb : s.cont .timer = none) :
    -- enabled exactly when due
    ((step s .timerFire).isSome = (decide (d ≤ s.now) || s.terminated)) ∧
    -- it closes the transport now; without shutdown "now" is the deadline = idle start + T
    (∀ s', step s .timerFire = some s' → s'.closedByServer = true ∧ s'.closeAt = some s.now ∧ s'.timer = none ∧
        (s.terminated = false → s.now = s.armedAt + s.cfg.T)) ∧
    -- time cannot pass the deadline, and not at all once shutdown has begun
    (∀ k s', step s (.tick k) = some s' → s'.now ≤ d ∧ (s.terminated = true → k = 0)) := by
  have hI := reachable_inv cfg ops s hr
  refine ⟨?_, ?_, ?_⟩
  · simp only [step, hd, hb, Option.isNone_none, Bool.and_true]
    split <;> simp_all
  · intro s' hs'
    simp only [step, hd, hb] at hs'
    split at hs'
    · rename_i hg
      simp only [Option.some.injEq] at hs'
      subst hs'
      -- with no stream registered, `handle(Closed)` tells nobody: the timer's program marks the protocol closed, releases every
      -- sender waiting in `drain()` and a parked reader, and closes the transport
      have e : ({ s with timer := none } : St).run .timer [.handleClosed, .transportClose, .timerEnd] =
          ({ s with timer := none, pclosed := s.pclosed || h11ClosedSetsFlag, draining := [],
                    ready := s.ready ++ s.draining.map (·.1) } : St).release.closeTransport := by
        have f1 : s.draining.filter (fun _ => true) = s.draining := List.filter_eq_self.2 (fun _ _ => rfl)
        have f2 : s.draining.filter (fun _ => false) = [] := List.filter_eq_nil_iff.2 (fun _ _ => by simp)
        simp [St.run, FUEL, exec, hl, h11ClosedClosesStream, h11ClosedReleasesReader, h2ClosedTellsEveryStream, f1, f2]
      rw [e]
      have hrc : ∀ t : St, t.release.closedByServer = t.closedByServer ∧ t.release.now = t.now ∧ t.release.timer = t.timer := by
        intro t; unfold St.release; split <;> simp
      refine ⟨closeTransport_closed _, ?_, ?_, ?_⟩
      · rw [closeTransport_closeAt _ (by rw [(hrc _).1]; exact hc), (hrc _).2.1]
      · rw [closeTransport_timer, (hrc _).2.2]
      · intro ht
        have h1 := hI.dl d hd
        have h2 := hI.nl d hd
        simp [ht] at hg
        omega
    · simp at hs'
  · intro k s' hs'
    simp only [step, hd] at hs'
    split at hs'
    · simp at hs'
    · rename_i hg
      simp only [Option.some.injEq] at hs'; subst hs'
      simp only [Cfg.wait_eq, Option.isSome_some, Bool.true_and, Bool.or_eq_true, not_or, Bool.and_eq_true, decide_eq_true_eq, not_and, Nat.not_lt] at hg
      refine ⟨by simp; omega, ?_⟩
      intro ht; have := hg.1 ht; omega

/-- for every `keep_alive_timeout` T ≥ 0 (0 included): on a connection without registered streams whose
    timer is armed, the deadline is (start of idleness) + T with T the configured value itself, the start lies in the past and
    the deadline not; the expiry step is enabled exactly from `armedAt + T` on (or at once during shutdown), it closes the
    transport at that instant - which without shutdown is `armedAt + T` - and the clock cannot pass `armedAt + T` -/
theorem idle_closes_at_T (cfg : Cfg) (ops : List Op) (s : St) (hr : run (init cfg) ops = some s) (d : Nat)
    (hd : s.timer = some d) (hl : s.live = []) (hc : s.closedByServer = false) (hb : s.cont .timer = none) :
    d = s.armedAt + s.cfg.T ∧ s.armedAt ≤ s.now ∧ s.now ≤ s.armedAt + s.cfg.T ∧
    ((step s .timerFire).isSome = (decide (s.armedAt + s.cfg.T ≤ s.now) || s.terminated)) ∧
    (∀ s', step s .timerFire = some s' → s'.closedByServer = true ∧ s'.closeAt = some s.now ∧ s'.timer = none ∧
        (s.terminated = false → s.now = s.armedAt + s.cfg.T)) ∧
    (∀ k s', step s (.tick k) = some s' → s'.now = s.now + k ∧ s.now + k ≤ s.armedAt + s.cfg.T ∧ (s.terminated = true → k = 0)) := by
  have hI := reachable_inv cfg ops s hr
  have hdl := hI.dl d hd
  obtain ⟨h1, h2, h3⟩ := idle_close_time cfg ops s hr d hd hl hc hb
  refine ⟨hdl, hI.al d hd, by have := hI.nl d hd; omega, by rw [h1, hdl], h2, ?_⟩
  intro k s' hs'
  have h4 := h3 k s' hs'
  have hn : s'.now = s.now + k := by
    simp only [step, hd] at hs'
    split at hs'
    · simp at hs'
    · simp only [Option.some.injEq] at hs'; subst hs'; rfl
  exact ⟨hn, by omega, h4.2⟩

/-- **keep-alive disabled** (`keep_alive_timeout = 0`): an idle connection is closed at once - whenever the timer is armed on a
    connection without streams, its expiry is enabled now and no time can pass first (before the first head, between keep-alive
    requests, on an HTTP/2 connection whose last stream has ended) -/
theorem keep_alive_zero_closes_at_once (cfg : Cfg) (ops : List Op) (s : St) (hr : run (init cfg) ops = some s) (d : Nat)
    (hd : s.timer = some d) (hl : s.live = []) (hc : s.closedByServer = false) (hb : s.cont .timer = none) (h0 : s.cfg.T = 0) :
    (step s .timerFire).isSome = true ∧ (∀ s', step s .timerFire = some s' → s'.closeAt = some s.now) ∧
    (∀ k s', step s (.tick k) = some s' → k = 0) := by
  obtain ⟨_, ha, hn, hf, hcl, ht⟩ := idle_closes_at_T cfg ops s hr d hd hl hc hb
  refine ⟨?_, fun s' hs' => (hcl s' hs').2.1, ?_⟩
  · rw [hf]; simp; left; omega
  · intro k s' hs'; have := (ht k s' hs').2.1; omega

/-- bytes that do not complete a request head (a read after which the parser needs more
    data) leave the armed timer and its deadline untouched -/
theorem partial_head_times_out (s s1 s2 : St) (h1 : step s .read = some s1) (h2 : step s1 .needData = some s2) :
    s2.timer = s.timer ∧ s2.armedAt = s.armedAt ∧ s2.closedByServer = s.closedByServer := by
  simp only [step] at h1
  split at h1 <;> simp at h1
  rename_i hg
  subst h1
  simp only [Bool.and_eq_true, beq_iff_eq, Bool.not_eq_true'] at hg
  simp only [step, St.readerCan, beq_self_eq_true, if_true] at h2
  simp at h2; subst h2
  simp [St.run, FUEL, exec, hg.2, priorIdleBeforeData]

/-- the reader notices a server-side close: while it waits in `read()` on a transport the server has closed, the step
    that ends the reader is enabled (so such a state is never quiescent) -/
theorem reader_notices_close (s : St) (h1 : s.rpc = .reading) (h2 : s.closedByServer = true) (h3 : s.eofSeen = false) :
    (step s .readerSeesClose).isSome = true := by simp [step, h1, h2, h3]

/-- the final step: once the reader has finished, no stream is registered, every application has returned,
    the timer is stopped and no task is blocked, the handler exits at once: transport closed, nothing left alive -/
theorem released (s : St) (h : s.handlerReady = true) :
    ∃ s', step s .handlerExit = some s' ∧ s'.closedByServer = true ∧ s'.timer = none ∧ s'.doneAt = some s.now ∧
      s'.closers = [] ∧ s'.rpc = .finished ∧ s'.live = [] := by
  have h0 := h
  simp only [St.handlerReady, Bool.and_eq_true, beq_iff_eq, List.isEmpty_iff, Option.isNone_iff_eq_none] at h
  obtain ⟨⟨⟨⟨⟨⟨⟨h1, h2⟩, h3⟩, h4⟩, _⟩, _⟩, _⟩, _⟩ := h
  exact ⟨({ (s.closeTransport).stopTimer with doneAt := some s.now } : St).emit [.done s.now], by simp only [step, h0, if_true],
    by simp [St.emit, h1, h2, h4]⟩

/-- the reader's end stops the idle timer on both workers (F25 fixed): after `readerEnd` no timer is armed -/
theorem reader_end_stops_timer (s : St) (w : Who) : (s.run w [.readerEnd]).timer = none ∧ (s.run w [.readerEnd]).rpc = .finished := by
  have : s.cfg.readerEndStops = true := by
    simp [Cfg.readerEndStops, asyncioReaderEndStopsIdle, trioReaderEndStopsIdle]
  simp [St.run, FUEL, exec, this]

/-- **a late `StreamClosed` does not prolong idleness**: HTTP/2 `stream_send(StreamClosed)` for a stream that is no longer
    registered (the client reset it, its application finishes later) changes nothing - in particular neither the timer nor
    its deadline -/
theorem late_stream_closed_changes_nothing (s : St) (w : Who) (i : Nat) (h : s.live.contains i = false) :
    s.run w [.h2StreamClosed i] = s := by
  have ha : s.h2ClosedApplies i = false := by simp only [St.h2ClosedApplies, h2StreamClosedIgnoresUnknown, if_true]; exact h
  simp only [St.run, FUEL, exec, ha]
  rfl

/-- **HTTP/2: the end of a stream always reports the connection's idleness**: for a registered stream on a connection that is not
    closed, what follows `_close_stream` in `stream_send(StreamClosed)` ends with `send(Updated(idle=idle))` whether or not the
    shutdown GOAWAY was written before it (`h2StreamClosedAlwaysUpdates`, extracted: the `if not self.closed:` is a statement of
    its own, not an `elif` of the GOAWAY branch) -/
theorem h2_stream_closed_always_updates (s : St) (hp : s.cfg.proto = .h2) (hc : s.pclosed = false) :
    (afterCloseP s).1 = s ∧
    (afterCloseP s).2 = (if s.live.all (fun j => (s.inst j).idle) && s.terminated then [Instr.write] else []) ++ [.idleUpdate] := by
  have hg : h2StreamClosedAlwaysUpdates = true := rfl
  simp [afterCloseP, hp, hc, hg]

/-- … and that `Updated` restarts the timer when every remaining stream is idle (deadline now + T), stops it otherwise -/
theorem idle_update_drives_timer (f : Nat) (s : St) (w : Who) (rest : List Instr) :
    exec (f + 1) s w (.idleUpdate :: rest) =
      exec f (if s.live.all (fun j => (s.inst j).idle) then s.armTimer else s.stopTimer) w rest ∧
    s.armTimer.timer = some (s.now + s.cfg.T) ∧ s.armTimer.armedAt = s.now :=
  ⟨by simp [exec], armTimer_timer s, armTimer_armedAt s⟩

/-- **the last stream ends after shutdown has begun** (HTTP/2, asyncio; trio differs only in the checkpoint of the write, see the
    witnesses): the GOAWAY is written, the timer - stopped since the request arrived - is restarted, and because `terminated` is
    set its expiry is enabled at once while no time may pass: the connection is closed now, whatever the client makes of the
    GOAWAY -/
theorem shutdown_last_stream_closes_at_once (s : St) (w : Who) (hp : s.cfg.proto = .h2) (ha : s.cfg.trio = false) (hc : s.pclosed = false)
    (hl : s.live = []) (ht : s.terminated = true) (ho : s.closedByServer = false) (hf : s.failWrites = false) (hfa : s.failAt = none)
    (hw : s.wblocked = none) (hpw : s.wpaused = false) (hb : s.cont .timer = none) :
    (s.run w [.afterClose]).timer = some (s.now + s.cfg.T) ∧
    (step (s.run w [.afterClose]) .timerFire).isSome = true ∧
    (∀ k, 0 < k → step (s.run w [.afterClose]) (.tick k) = none) := by
  have hg : h2StreamClosedAlwaysUpdates = true := rfl
  have e : s.run w [.afterClose] = ({ s with wc := s.wc + 1 }.emit [.write]).armTimer := by
    simp [St.run, FUEL, exec, afterCloseP, hp, ha, hc, hl, ht, ho, hf, hfa, hw, hpw, hg, St.writeDue, St.emit]
  rw [e]
  refine ⟨by simp [St.emit], ?_, ?_⟩
  · simp [step, St.armTimer, St.emit, ht, hb]
  · intro k hk
    simp [step, St.armTimer, St.emit, ht, hk]

/-- **the end of a response restarts the idle timer whatever the parser still holds** (HTTP/1): request and response complete,
    nothing registered, not closed, no shutdown - the rest of `stream_send(StreamClosed)` recycles the connection, releases a
    parked reader and arms the timer with deadline now + T.  The state has no record of bytes h11 has buffered (the beginning
    of a pipelined request's head that arrived while this one was being answered, say), so the restart cannot depend on them;
    in the source the `Updated(idle=True)` is an unconditional statement of the recycle branch (`h11RecycleIdleUnconditional`,
    extracted): a complete pipelined head stops the timer again at its `Request` event, an incomplete one leaves it running
    (`partial_head_times_out`) and the connection is closed T after the response ended -/
theorem recycle_restarts_idle_timer (s : St) (hp : s.cfg.proto = .h1) (hc : s.pclosed = false) (ht : s.terminated = false)
    (ho : s.our = .done) (hth : s.their = .done) (hw : s.wsMode = false) (hl : s.live = []) :
    (afterCloseP s).1.timer = some (s.now + s.cfg.T) ∧ (afterCloseP s).1.armedAt = s.now ∧ (afterCloseP s).2 = [] ∧
    (afterCloseP s).1.our = .idle ∧ (afterCloseP s).1.their = .idle ∧ (afterCloseP s).1.rpc ≠ .parked := by
  have hg : h11RecycleIdleUnconditional = true := rfl
  simp only [afterCloseP, hp, hc, ht, ho, hth, hw, hl, hg, if_true, Bool.not_false, Bool.and_self, beq_self_eq_true,
    List.isEmpty_nil, St.armTimer, St.emit, St.release]
  split <;> simp_all

/-- **prior-knowledge HTTP/2** (cleartext; h11 reports the preface line as a request, which stops the timer): the wrapper's
    `Updated(idle=True)` is processed while no stream exists - it restarts the timer with deadline now + T - and *before* the
    bytes that followed the preface are handed over, so a request among them stops the timer again afterwards -/
theorem prior_switch_idle_first (f : Nat) (s : St) (w : Who) (rest : List Instr) (hl : s.live = []) :
    exec (f + 1) s w (.wrapperIdle :: rest) = exec f s.armTimer w rest ∧
    s.armTimer.timer = some (s.now + s.cfg.T) ∧ s.armTimer.armedAt = s.now :=
  ⟨by simp [exec, priorIdleBeforeData, hl], armTimer_timer s, armTimer_armedAt s⟩

/-- … and the switch itself arms nothing while a request is in progress: whatever the state, after the preface step the
    timer is armed only if no registered stream is busy (an instance of `timer_armed_implies_not_busy`, spelled out for the
    step because it is the one place where `Updated(idle=True)` is sent without looking at the streams) -/
theorem prior_switch_not_armed_while_busy (cfg : Cfg) (ops : List Op) (s s' : St) (hr : run (init cfg) ops = some s)
    (hs : step s .h2prior = some s') (ha : s'.timer.isSome = true) : s'.busy = false :=
  timer_armed_implies_not_busy cfg (ops ++ [.h2prior]) s' (by rw [run_eq_runOps] at hr ⊢; simp [HC.runOps_append, hr, HC.runOps, hs]) ha

/-- **a server-side close releases a writer the peer keeps waiting** (trio): `_close()` passes over the BusyResourceError
    that `send_eof()` raises while another task is inside `send_all` and goes on to `aclose()`: the transport is closed at
    this instant and the blocked writer is runnable again … -/
theorem server_close_releases_blocked_writer (f : Nat) (s : St) (w u : Who) (rest : List Instr) (ht : s.cfg.trio = true)
    (hb : s.wblocked = some u) (hc : s.closedByServer = false) :
    (exec (f + 1) s w (.serverCloseNow :: rest)).closedByServer = true ∧
    (exec (f + 1) s w (.serverCloseNow :: rest)).closeAt = some s.now ∧
    (exec (f + 1) s w (.serverCloseNow :: rest)).wblocked = none ∧
    u ∈ (exec (f + 1) s w (.serverCloseNow :: rest)).ready := by
  simp [exec, ht, hb, hc, trioCloseToleratesBusy, trioCloseAlwaysCloses, Cfg.closeStops, Cfg.echoes, trioCloseStopsIdle, trioClosedEchoes,
    St.closeTransport, St.releaseWriter, St.yieldTo, St.emit]

/-- … and when it runs it finds its write failed and tells the protocol the connection is closed (which tells every stream:
    `C03.closed_tells_every_stream`), so an application held in `send()` gets its answer -/
theorem released_writer_reports_closed (f : Nat) (s : St) (u : Who) (rest : List Instr) (ht : s.cfg.trio = true) (hc : s.closedByServer = true) :
    exec (f + 1) s u (.writeWait :: rest) = exec f (s.emit [.writeFail]) u (.handleClosed :: rest) := by
  simp [exec, ht, hc]

/-- HTTP/2: the client resets the only stream at 1 s (idle from then), the streaming application ignores the disconnect and
    ends its response at 4 s: the deadline stays 1 s + T and the connection is closed then, not at 4 s + T -/
example : (run (init { proto := .h2, T := 5000 }) [.read, .head {}, .h2eom 0, .needData, .appSend 0 (.start false), .appSend 0 (.body true true),
      .tick 1000, .read, .h2rst 0, .needData, .tick 3000, .appSend 0 (.body false true), .appExit 0, .tick 2000, .timerFire]).map
    (fun s => (s.closeAt, s.timer)) = some (some 6000, none) := by decide +kernel


/-- HTTP/1: the first bytes of a second request's head arrive at 0.5 s, while the first request is still being answered (h11
    reports PAUSED, the reader parks); the response ends at 1 s: the connection is recycled, the released reader finds an
    incomplete head (NEED_DATA), and the connection - idle from 1 s - is closed at 1 s + T -/
example : (run (init { T := 5000 }) [.read, .head {}, .eom, .needData, .tick 500, .read, .paused, .tick 500, .appSend 0 (.start false),
      .appSend 0 (.body false true), .needData, .appExit 0, .tick 5000, .timerFire]).map
    (fun s => (s.closeAt, s.timer, (s.inst 0).access)) = some (some 6000, none, 1) := by decide +kernel
/-- … the same with those bytes in the read that carried the first request -/
example : (run (init { T := 5000 }) [.read, .head {}, .eom, .paused, .tick 1000, .appSend 0 (.start false),
      .appSend 0 (.body false true), .needData, .tick 4999]).map
    (fun s => (s.timer, s.armedAt, s.closedByServer)) = some (some 6000, 1000, false) := by decide +kernel
example : (run (init { T := 5000 }) [.read, .head {}, .eom, .paused, .tick 1000, .appSend 0 (.start false),
      .appSend 0 (.body false true), .needData, .tick 5001]).isNone = true := by decide +kernel

/-- prior-knowledge HTTP/2, preface and first request in ONE read, a response that takes 3 T: the timer restarted by the
    switch is stopped again by the request that follows in the same read; nothing is closed while the request is served, the
    connection is closed T after the response ended -/
example : (run (init { proto := .h2, T := 5000 }) [.tick 1000, .read, .h2prior, .head {}, .h2eom 0, .needData, .appRecv 0, .tick 15000,
      .appSend 0 (.start false), .appSend 0 (.body false true), .resume (.app 0), .appExit 0, .tick 5000, .timerFire]).map
    (fun s => (s.closeAt, s.timer, (s.inst 0).access)) = some (some 21000, none, 1) := by decide +kernel
/-- … while the request is being served the timer is not armed and the clock may pass any old deadline -/
example : (run (init { proto := .h2, T := 5000 }) [.tick 1000, .read, .h2prior, .head {}, .h2eom 0, .needData, .tick 15000]).map
    (fun s => (s.timer, s.busy, s.closedByServer)) = some (none, true, false) := by decide +kernel
/-- the preface on its own: the connection is idle again from the switch (F95, known: counted from the preface, not from the
    accept) and is closed T later -/
example : (run (init { proto := .h2, T := 5000 }) [.tick 1000, .read, .h2prior, .needData, .tick 5000, .timerFire]).map
    (fun s => (s.closeAt, s.live)) = some (some 6000, []) := by decide +kernel

/-- h2c upgrade: the upgraded request is in progress from the switch on - the timer h11 stopped stays stopped, 3 T may pass, and
    the connection is closed T after the response has ended -/
example : (run (init { proto := .h2, T := 5000 }) [.tick 1000, .read, .h2c, .head {}, .h2eom 0, .needData, .appRecv 0, .tick 15000,
      .appSend 0 (.start false), .appSend 0 (.body false true), .resume (.app 0), .appExit 0, .tick 5000, .timerFire]).map
    (fun s => (s.closeAt, s.timer, (s.inst 0).access)) = some (some 21000, none, 1) := by decide +kernel
example : (run (init { proto := .h2, T := 5000 }) [.tick 1000, .read, .h2c, .head {}, .h2eom 0, .needData, .tick 15000]).map
    (fun s => (s.timer, s.busy, s.closedByServer)) = some (none, true, false) := by decide +kernel

/-- trio: the peer does not read, the application's first write is held up; a malformed chunk header makes the server close:
    `_close()` passes over BusyResourceError, `aclose()` releases the writer, which reports the closure; the application's
    later sends are no-ops, it returns and the handler finishes - all at the instant of the decision -/
def blockedWriterClosed : List Op :=
  [.pauseWrites, .read, .head {}, .needData, .appSend 0 (.start false), .resume (.app 0), .tick 300, .read, .protoError,
   .resume .reader, .resume .reader, .resume .reader, .resume (.app 0), .appSend 0 (.body false true),
   .resume (.app 0), .resume (.app 0), .resume (.app 0), .resume (.app 0), .appExit 0, .readerSeesClose, .handlerExit]
example : (run (init { trio := true, T := 1000 }) blockedWriterClosed).map
    (fun s => (s.closeAt, s.doneAt, (s.inst 0).discPuts, s.wblocked.isNone && s.wlockq.isEmpty)) = some (some 300, some 300, 1, true) := by decide +kernel
/-- F96 (known), asyncio: `writer.close()` keeps what is buffered until the peer reads it; the task waiting in `drain()` is not
    released by the server's close - the application stays inside `send()`, the handler never becomes ready -/
example : (run (init { T := 1000 }) [.pauseWrites, .read, .head {}, .needData, .appSend 0 (.start false), .tick 300, .read, .protoError,
      .readerSeesClose, .tick 100000]).map
    (fun s => (s.closeAt, s.wblocked == some (.app 0), s.handlerReady, (s.inst 0).discPuts)) = some (some 300, true, false, 1) := by decide +kernel

/-- HTTP/2, shutdown begins at 1 s while a request is being served, its response ends at 3 s: GOAWAY, the timer is restarted and
    - `terminated` being set - fires at once: the connection is closed at 3 s although the client, ignoring the GOAWAY, keeps it
    open; no time may pass first (asyncio, trio) -/
example : (run (init { proto := .h2, T := 5000 }) [.read, .head {}, .h2eom 0, .needData, .appRecv 0, .tick 1000, .terminate, .tick 2000,
      .appSend 0 (.start false), .appSend 0 (.body false true), .resume (.app 0), .timerFire]).map
    (fun s => (s.closeAt, s.timer, (s.inst 0).access)) = some (some 3000, none, 1) := by decide +kernel
example : (run (init { proto := .h2, T := 5000 }) [.read, .head {}, .h2eom 0, .needData, .appRecv 0, .tick 1000, .terminate, .tick 2000,
      .appSend 0 (.start false), .appSend 0 (.body false true), .resume (.app 0), .tick 1]).isNone = true := by decide +kernel
/-- keep-alive disabled (T = 0): nothing arrives - closed at 0, no time can pass first; a request that arrived together with the
    connection is served (its head stopped the timer before it ran), and the connection is closed the instant its response ends -/
example : (run (init { T := 0 }) [.timerFire, .readerSeesClose, .handlerExit]).map (fun s => (s.closeAt, s.doneAt)) = some (some 0, some 0) := by decide +kernel
example : (run (init { T := 0 }) [.tick 1]).isNone = true := by decide +kernel
example : (run (init { T := 0 }) [.read, .head {}, .eom, .needData, .appRecv 0, .tick 700, .appSend 0 (.start false), .appSend 0 (.body false true),
      .timerFire]).map (fun s => (s.closeAt, s.timer, (s.inst 0).access)) = some (some 700, none, 1) := by decide +kernel
example : (run (init { T := 0 }) [.read, .head {}, .eom, .needData, .appRecv 0, .tick 700, .appSend 0 (.start false), .appSend 0 (.body false true),
      .tick 1]).isNone = true := by decide +kernel

/-- idle connection: nothing arrives, closed at exactly T; the handler is done at the same instant -/
example : (run (init { T := 5000 }) [.tick 5000, .timerFire, .readerSeesClose, .handlerExit]).map (fun s => (s.closeAt, s.doneAt)) =
    some (some 5000, some 5000) := by decide +kernel
/-- … and time cannot jump over the deadline -/
example : (run (init { T := 5000 }) [.tick 5001]).isNone = true := by decide +kernel
/-- client EOF on an idle connection at 2 s: released at 2 s, not at T (F25 fixed) -/
example : (run (init { T := 5000 }) [.tick 2000, .readEof, .connClosed, .handlerExit]).map (fun s => (s.closeAt, s.doneAt)) =
    some (some 2000, some 2000) := by decide +kernel
/-- a request in progress: the timer is not armed, 100 s may pass -/
example : (run (init { T := 5000 }) [.read, .head {}, .eom, .needData, .tick 100000]).map (fun s => (s.timer, s.busy, s.closedByServer)) =
    some (none, true, false) := by decide +kernel
/-- shutdown: the idle connection is closed at once -/
example : (run (init { T := 5000 }) [.tick 1000, .terminate, .timerFire]).map (fun s => s.closeAt) = some (some 1000) := by decide +kernel
example : (run (init { T := 5000 }) [.tick 1000, .terminate, .tick 1]).isNone = true := by decide +kernel
/-- a stream-generated 404 (unknown server name): the closer task closes the connection at once (F09 fixed) -/
example : (run (init { T := 5000 }) [.read, .head { nameOk := false }, .eom, .needData, .closerRun 0, .readerSeesClose, .handlerExit]).map
    (fun s => (s.closeAt, s.doneAt, (s.inst 0).access)) = some (some 0, some 0, 1) := by decide +kernel
/-- a pipelined request parked behind an unfinished one, the write fails, the application gives up: the reader is
    released by `handle(Closed)` and the connection ends with the client's EOF (F10 fixed) -/
example : (run (init { T := 5000 }) [.read, .head {}, .eom, .paused, .failWrites, .appRecv 0, .appSend 0 (.start false),
      .appRecv 0, .appExit 0, .paused, .readEof, .protoError, .handlerExit]).map (fun s => (s.rpc, s.doneAt.isSome, (s.inst 0).discPuts)) =
    some (.finished, true, 1) := by decide +kernel
/-- F08 (known): the queue is full and the application has gone: the handler never becomes ready, whatever happens -/
example : (run (init { cap := 2, T := 5000 }) (HC.Conn.Op.read :: [.head {}, .body, .body, .needData, .appExit 0, .readEof, .connClosed, .tick 100000])).map
    (fun s => (s.handlerReady, s.closedByServer, (s.cont (.app 0)).isSome)) = some (false, false, true) := by decide +kernel

end HC.Props.C07
