import HC.Pure.Config
import HC.Pure.ConfigObjects
/-!
# C19 — Configuration sources agree; command-line flags wired one-to-one; binds parse; response headers

The theorems about the models `HC/Pure/Config.lean` (setters, loaders, bind strings, response headers, the date) and
`HC/Pure/ConfigObjects.lean` (several `Config` objects), and the notions their statements need (the specification `spec` of the
command line and the table checks `headOK` … `destsNodup`, `plainHost`, `digits`, `v6chars`).
Theorems named `…_spec`, and `cli_table_wired`, state facts about tables and sites that the extractor reads off the source on
every run (`HC/Extracted/Cli.lean` from `src/hypercorn/__main__.py`; `ConfigSites`, `ConfigState`, `Guards` from `config.py`):
they are decided against whatever the source is when the file is checked, and the theorems below them rest on them.
-/
namespace HC.Props.C19
open HC HC.Config HC.Extracted

/-! ### Command line -/

/-- hand-written specification: argparse destination ↦ the configuration attribute that flag is documented to set -/
def spec : List (String × String) := [
  ("log_level", "loglevel"), ("access_logformat", "access_log_format"), ("access_log", "accesslog"),
  ("access_logfile", "accesslog"), ("backlog", "backlog"), ("ca_certs", "ca_certs"), ("certfile", "certfile"),
  ("cert_reqs", "cert_reqs"), ("ciphers", "ciphers"), ("debug", "debug"), ("error_log", "errorlog"),
  ("error_logfile", "errorlog"), ("graceful_timeout", "graceful_timeout"), ("read_timeout", "read_timeout"),
  ("group", "group"), ("keep_alive", "keep_alive_timeout"), ("keyfile", "keyfile"),
  ("keyfile_password", "keyfile_password"), ("log_config", "logconfig"), ("max_requests", "max_requests"),
  ("max_requests_jitter", "max_requests_jitter"), ("pid", "pid_path"), ("root_path", "root_path"),
  ("reload", "use_reloader"), ("statsd_host", "statsd_host"), ("statsd_prefix", "statsd_prefix"),
  ("umask", "umask"), ("user", "user"), ("worker_class", "worker_class"), ("verify_mode", "verify_mode"),
  ("websocket_ping_interval", "websocket_ping_interval"), ("workers", "workers"),
  ("binds", "bind"), ("insecure_binds", "insecure_bind"), ("quic_binds", "quic_bind"), ("server_names", "server_names")]

/-- the first statement of the wiring is `config.application_path = args.application` -/
def headOK : Bool := match Cli.wires with
  | w :: _ => w.kind == "always" && w.attr == "application_path" && w.source == "application"
  | [] => false

/-- every other wire copies the argument it tests (`if args.X is not sentinel: config.Y = args.X`) -/
def tailOK : Bool := Cli.wires.tail.all (fun w =>
  w.kind != "always" && w.guard == w.source && w.guard != "application" && w.guard != "")

/-- … into the attribute the specification names -/
def specOK : Bool := Cli.wires.tail.all (fun w => spec.lookup w.guard == some w.attr)

/-- no flag is tested twice, and every flag of the specification is wired -/
def guardsNodup : Bool := decide ((Cli.wires.tail.map (·.guard)).Nodup)
def coverOK : Bool := spec.all (fun p => Cli.wires.tail.any (fun w => w.guard == p.1))

/-- an absent flag must be a no-op: the argument's default is the sentinel (or the empty list for `append` flags) -/
def defaultsOK : Bool := Cli.wires.tail.all (fun w =>
  Cli.args.any (fun a => a.dest == w.guard && a.default == (if w.kind == "nonempty" then "list" else "sentinel")))

/-- every optional argument except the config-file flag is wired to the configuration -/
def argsCovered : Bool := Cli.args.all (fun a =>
  a.dest == "application" || a.dest == "config" || Cli.wires.tail.any (fun w => w.guard == a.dest))

def destsNodup : Bool := decide ((Cli.args.map (·.dest)).Nodup)

/-- **the extracted command-line table is wired one-to-one, per specification** -/
theorem cli_table_wired :
    headOK = true ∧ tailOK = true ∧ specOK = true ∧ guardsNodup = true ∧ coverOK = true ∧
    defaultsOK = true ∧ argsCovered = true ∧ destsNodup = true := by decide +kernel

private theorem filter_unique {l : List Cli.Wire} {w : Cli.Wire} (hn : (l.map (·.guard)).Nodup) (hw : w ∈ l) :
    l.filter (fun x => x.guard == w.guard) = [w] := by
  induction l with
  | nil => cases hw
  | cons a t ih =>
    simp only [List.map_cons, List.nodup_cons] at hn
    rcases List.mem_cons.mp hw with rfl | hw'
    · have : t.filter (fun x => x.guard == w.guard) = [] := by
        rw [List.filter_eq_nil_iff]; intro x hx hc
        exact hn.1 (List.mem_map.mpr ⟨x, hx, by simpa using hc⟩)
      simp [this]
    · have hne : ¬ (a.guard == w.guard) = true := by
        intro hc; exact hn.1 (List.mem_map.mpr ⟨w, hw', (by simpa using hc : a.guard = w.guard).symm⟩)
      simp [hne, ih hn.2 hw']

/-- no flag is tested twice (`guardsNodup`), so a wire of the table is determined by the flag it tests -/
private theorem guard_inj {a b : Cli.Wire} (ha : a ∈ Cli.wires.tail) (hb : b ∈ Cli.wires.tail) (h : a.guard = b.guard) :
    a = b := by
  have hnd : (Cli.wires.tail.map (·.guard)).Nodup := by simpa [guardsNodup] using cli_table_wired.2.2.2.1
  have ha' : a ∈ Cli.wires.tail.filter (fun y => y.guard == b.guard) := List.mem_filter.mpr ⟨ha, by simp [h]⟩
  rw [filter_unique hnd hb] at ha'
  simpa using ha'

private theorem lookup_cons (k k' v : String) (l : List (String × String)) :
    List.lookup k ((k', v) :: l) = if k = k' then some v else List.lookup k l := by
  by_cases h : k = k'
  · subst h; simp [List.lookup]
  · have : (k == k') = false := by simpa using h
    simp [List.lookup, this, h]

private theorem tail_facts : ∀ w ∈ Cli.wires.tail,
    w.kind ≠ "always" ∧ w.guard = w.source ∧ w.guard ≠ "application" := by
  have ht := cli_table_wired.2.1
  intro w hw
  have := List.all_eq_true.mp ht w hw
  simp only [Bool.and_eq_true, bne_iff_ne, ne_eq, beq_iff_eq] at this
  exact ⟨this.1.1.1, this.1.1.2, this.1.2⟩

/-- semantics of the wiring for an arbitrary set of given flags: after the application path, exactly the wires
    whose flag was given fire, in table order, each copying *its own* argument -/
theorem cli_semantics (app : String) (ds : List (String × String))
    (h1 : ds.lookup "application" = none) :
    assignments Cli.wires (givenOf app ds) =
      ("application_path", some app) ::
        (Cli.wires.tail.filter (fun w => (ds.lookup w.guard).isSome)).map (fun w => (w.attr, ds.lookup w.guard)) := by
  have hh := cli_table_wired.1
  have ht' := tail_facts
  unfold headOK at hh
  cases hws : Cli.wires with
  | nil => rw [hws] at hh; simp at hh
  | cons w0 rest =>
    rw [hws] at hh ht'
    simp only [Bool.and_eq_true, beq_iff_eq] at hh
    obtain ⟨⟨hk, ha⟩, hs⟩ := hh
    simp only [List.tail_cons] at ht'
    simp only [assignments, List.tail_cons]
    have hf0 : fires (givenOf app ds) w0 = true := by simp [fires, hk]
    rw [List.filter_cons_of_pos hf0]
    simp only [List.map_cons, ha, hs, givenOf, if_true]
    congr 1
    have hfil : rest.filter (fires (givenOf app ds)) = rest.filter (fun w => (ds.lookup w.guard).isSome) := by
      apply List.filter_congr
      intro w hw
      obtain ⟨hk', _, hg⟩ := ht' w hw
      simp [fires, hk', givenOf, hg]
    rw [hfil]
    apply List.map_congr_left
    intro w hw
    have hw' := (List.mem_filter.mp hw).1
    obtain ⟨_, hgs, hg⟩ := ht' w hw'
    simp [← hgs, hg]

/-- **a flag sets exactly its own setting to exactly the given value and nothing else** -/
theorem cli_sets_exactly (app v : String) (w : Cli.Wire) (hw : w ∈ Cli.wires.tail) :
    assignments Cli.wires (givenOf app [(w.guard, v)]) = [("application_path", some app), (w.attr, some v)] ∧
    spec.lookup w.guard = some w.attr := by
  obtain ⟨_, _, hsp, hn, -⟩ := cli_table_wired
  have happ : w.guard ≠ "application" := (tail_facts w hw).2.2
  refine ⟨?_, by simpa using List.all_eq_true.mp hsp w hw⟩
  rw [cli_semantics app [(w.guard, v)] (by simp [happ.symm])]
  have hfil : Cli.wires.tail.filter (fun x => (List.lookup x.guard [(w.guard, v)]).isSome) = [w] := by
    rw [← filter_unique (by simpa [guardsNodup] using hn) hw]
    apply List.filter_congr
    intro x _
    by_cases hx : x.guard = w.guard <;> simp [hx]
  rw [hfil]
  simp

/-- **flags that are not given change nothing** -/
theorem cli_absent_flag_is_noop (app : String) :
    assignments Cli.wires (givenOf app []) = [("application_path", some app)] := by
  rw [cli_semantics app [] rfl]; simp [List.lookup]

/-- two different flags: both their settings, nothing else (no cross-talk) -/
theorem cli_pair (app v1 v2 : String) (w1 w2 : Cli.Wire) (h1 : w1 ∈ Cli.wires.tail) (h2 : w2 ∈ Cli.wires.tail)
    (hne : w1.guard ≠ w2.guard) :
    ∀ a ∈ assignments Cli.wires (givenOf app [(w1.guard, v1), (w2.guard, v2)]),
      a = ("application_path", some app) ∨ a = (w1.attr, some v1) ∨ a = (w2.attr, some v2) := by
  have hg := fun w hw => (tail_facts w hw).2.2
  rw [cli_semantics app _ (by simp [lookup_cons, (hg w1 h1).symm, (hg w2 h2).symm])]
  intro a ha
  rcases List.mem_cons.mp ha with rfl | ha
  · left; rfl
  · right
    obtain ⟨x, hx, rfl⟩ := List.mem_map.mp ha
    obtain ⟨hxt, hxs⟩ := List.mem_filter.mp hx
    simp only [lookup_cons, List.lookup_nil] at hxs ⊢
    by_cases e1 : x.guard = w1.guard
    · left; rw [guard_inj hxt h1 e1]; simp
    · by_cases e2 : x.guard = w2.guard
      · right; rw [guard_inj hxt h2 e2]; simp [hne.symm]
      · simp [e1, e2] at hxs

example : ∃ w ∈ Cli.wires.tail, w.guard = "keep_alive" ∧ w.attr = "keep_alive_timeout" := by decide

/-! ### Setters and loaders -/

/-- **root_path is normalised without a trailing slash** and is otherwise the given value -/
theorem root_path_normalised (s : List Char) :
    (rstripSlash s).getLast? ≠ some '/' ∧ ∃ k, s = rstripSlash s ++ List.replicate k '/' := by
  unfold rstripSlash
  constructor
  · rw [List.getLast?_reverse]
    intro h
    have := List.head?_dropWhile_not (· == '/') s.reverse
    simp [h] at this
  · have key : ∀ l : List Char, ∃ k, l = List.replicate k '/' ++ l.dropWhile (· == '/') := by
      intro l
      induction l with
      | nil => exact ⟨0, rfl⟩
      | cons a t ih =>
        by_cases ha : a = '/'
        · obtain ⟨k, hk⟩ := ih
          exact ⟨k + 1, by subst ha; simp [List.replicate_succ, ← hk]⟩
        · exact ⟨0, by simp [ha]⟩
    obtain ⟨k, hk⟩ := key s.reverse
    exact ⟨k, by simpa using congrArg List.reverse hk⟩

/-- **`from_mapping` hands every key to `setattr`** (the extracted guards of its loop): no statement in front of `try: setattr(config, key, value) / except AttributeError: pass` skips a key - in
    particular not a key whose attribute cannot be *read* on a fresh `Config` (`cert_reqs`, `application_path`) -/
theorem from_mapping_guard_spec : ConfigSites.fromMappingGuards = [] ∧ ∀ k : String, mapKeeps k = true := by
  refine ⟨by rfl, ?_⟩
  intro k
  simp [mapKeeps, ConfigSites.fromMappingGuards]

/-- so the loop is the plain fold over all keys -/
theorem from_mapping_all_keys (kvs : List (String × Val)) : fromMapping kvs = fromMappingU kvs :=
  fromMapping_eq from_mapping_guard_spec.2 kvs

/-- a bind given as one string is the one-element list -/
theorem bind_str_eq_list (key : String) (hk : key = "bind" ∨ key = "insecure_bind" ∨ key = "quic_bind") (s : List Char) :
    setattrNorm key (.str s) = setattrNorm key (.strs [s]) := by
  rcases hk with rfl | rfl | rfl <;> simp [setattrNorm, readOnly]

/-- **what `from_object` drops** (the extracted filter clauses): exactly
    the dunder names and the module-valued attributes — a class (`logger_class`), a function or any other value is a setting
    like every other and is handed to `from_mapping` -/
theorem from_object_filter_spec (a : Attr) :
    objKeeps a = (!("__".isPrefixOf a.name) && a.kind != .module) := by
  cases hk : a.kind <;> cases hd : "__".isPrefixOf a.name <;>
    simp [objKeeps, ConfigSites.fromObjectFilter, clauseKeeps, Attr.callable, hk, hd]

/-- **all loaders funnel into `from_mapping`**: object / module / pyfile sources differ only by dropping dunder names and
    imported modules, whatever the values are (classes and functions included) -/
theorem loaders_agree (attrs : List Attr) (hnd : ∀ a ∈ attrs, ¬ "__".isPrefixOf a.name) (hnm : ∀ a ∈ attrs, a.kind ≠ .module) :
    fromObject attrs = fromMapping (attrs.map (fun a => (a.name, a.val))) := by
  unfold fromObject
  congr 2
  rw [List.filter_eq_self]
  intro a ha
  rw [from_object_filter_spec]
  simp [hnd a ha, hnm a ha]

/-- dunder names and modules imported into a configuration file never reach the configuration -/
theorem from_object_drops (pre post : List Attr) (a : Attr) (h : "__".isPrefixOf a.name = true ∨ a.kind = .module) :
    fromObject (pre ++ a :: post) = fromObject (pre ++ post) := by
  have : objKeeps a = false := by
    rw [from_object_filter_spec]
    rcases h with h | h <;> simp [h]
  simp [fromObject, List.filter_append, this]

/-- **a callable setting is honoured by the object loaders too**: a class- or function-valued attribute (the case of
    `logger_class`) supplied last through an object has the same effect as supplying it last through a mapping -/
theorem from_object_callable_setting (attrs : List Attr) (k : String) (kind : AttrKind) (v : Val)
    (hk : ¬ "__".isPrefixOf k) (hm : kind ≠ .module) :
    fromObject (attrs ++ [⟨k, kind, v⟩]) =
      fromMapping ((attrs.filter objKeeps).map (fun a => (a.name, a.val)) ++ [(k, v)]) := by
  have : objKeeps ⟨k, kind, v⟩ = true := by
    rw [from_object_filter_spec]
    simp [hk, hm]
  simp [fromObject, List.filter_append, this]

example : fromObject [⟨"logger_class", .cls, .other "QuietLogger"⟩, ⟨"os", .module, .other "os"⟩, ⟨"__name__", .plain, .str []⟩] =
    fromMapping [("logger_class", .other "QuietLogger")] := by decide +kernel

/-- the effect of one more key: its own (normalised) attribute gets the (normalised) value, every other attribute
    keeps what it had -/
theorem from_mapping_last (kvs : List (String × Val)) (k : String) (v : Val) (k' : String) (v' : Val)
    (hn : setattrNorm k v = some (k', v')) :
    (fromMapping (kvs ++ [(k, v)])).lookup k' = some v' ∧
    ∀ k'', k'' ≠ k' → (fromMapping (kvs ++ [(k, v)])).lookup k'' = (fromMapping kvs).lookup k'' := by
  rw [from_mapping_all_keys, from_mapping_all_keys, fromMappingU_snoc, hn]
  exact ⟨Store.lookup_set_self _ _ _, fun k'' hne => Store.lookup_set_ne _ _ _ _ hne⟩

/-- read-only properties are skipped silently -/
theorem from_mapping_readonly (kvs : List (String × Val)) (k : String) (v : Val) (hk : k ∈ readOnly) :
    fromMapping (kvs ++ [(k, v)]) = fromMapping kvs := by
  rw [from_mapping_all_keys, from_mapping_all_keys, fromMappingU_snoc]
  simp [setattrNorm, hk]

/-- **a setting that cannot be read back is loaded like any other**: `cert_reqs` (a property without a getter) supplied
    through any loader stores `VerifyMode(value)` under `verify_mode` - exactly what supplying `verify_mode` itself stores,
    and what the command line's `--cert-reqs` does (`config.cert_reqs = args.cert_reqs`, `cli_table_wired`) -/
theorem cert_reqs_loaded (kvs : List (String × Val)) (r : String) :
    fromMapping (kvs ++ [("cert_reqs", .other r)]) = fromMapping (kvs ++ [("verify_mode", .verifyMode r)]) ∧
    (fromMapping (kvs ++ [("cert_reqs", .other r)])).lookup "verify_mode" = some (.verifyMode r) := by
  have h1 : setattrNorm "cert_reqs" (.other r) = some ("verify_mode", .verifyMode r) := by simp [setattrNorm, readOnly]
  have h2 : setattrNorm "verify_mode" (.verifyMode r) = some ("verify_mode", .verifyMode r) := by simp [setattrNorm, readOnly]
  refine ⟨?_, (from_mapping_last kvs _ _ _ _ h1).1⟩
  rw [from_mapping_all_keys, from_mapping_all_keys, fromMappingU_snoc, fromMappingU_snoc, h1, h2]

/-- … and `application_path` (annotated on `Config` without a value) is stored under its own name -/
theorem application_path_loaded (kvs : List (String × Val)) (v : Val) :
    (fromMapping (kvs ++ [("application_path", v)])).lookup "application_path" = some v :=
  (from_mapping_last kvs "application_path" v "application_path" v (by simp [setattrNorm, readOnly])).1

/-- every key that is not a read-only property reaches an attribute, whether or not that attribute can be read back -/
theorem from_mapping_stores (kvs : List (String × Val)) (k : String) (v : Val) (hk : k ∉ readOnly) :
    ∃ k' v', setattrNorm k v = some (k', v') ∧ (fromMapping (kvs ++ [(k, v)])).lookup k' = some v' := by
  have : ∃ p, setattrNorm k v = some p := by
    unfold setattrNorm
    rw [if_neg hk]
    repeat' split
    all_goals exact ⟨_, rfl⟩
  obtain ⟨⟨k', v'⟩, h⟩ := this
  exact ⟨k', v', h, (from_mapping_last kvs k v k' v' h).1⟩

example : ConfigSites.unreadableKeys = ["application_path", "cert_reqs"] := by decide
example : fromMapping [("workers", .other "2"), ("cert_reqs", .other "2"), ("log", .other "1")] =
    [("verify_mode", .verifyMode "2"), ("workers", .other "2")] := by decide +kernel

/-! ### Bind strings -/

def plainHost (h : List Char) : Prop := ∀ c ∈ h, c ≠ ':' ∧ c ≠ '[' ∧ c ≠ ']'
def digits (p : List Char) : Prop := p ≠ [] ∧ ∀ c ∈ p, '0' ≤ c ∧ c ≤ '9'
def v6chars (h : List Char) : Prop := ':' ∈ h ∧ ∀ c ∈ h, c ≠ '[' ∧ c ≠ ']'

/-- **the address family is decided by the parsed host** (`inetIsV6` is the test of
    `socket.socket(socket.AF_INET6 if … else socket.AF_INET, type_)`): AF_INET6 exactly when the host contains a colon -
    however the bind string was written, with brackets or without -/
theorem bind_family_spec (bind0 bind host : List Char) : ConfigSites.inetIsV6 bind0 bind host = host.contains ':' := by rfl

private theorem takeWhile_rev (p x : List Char) (hp : ∀ c ∈ p, c ≠ ':') :
    (p.reverse ++ x).takeWhile (· != ':') = p.reverse ++ x.takeWhile (· != ':') :=
  List.takeWhile_append_of_pos (fun c hc => by simpa using hp c (List.mem_reverse.mp hc))

private theorem rsplitColon_append (h p : List Char) (hp : ∀ c ∈ p, c ≠ ':') :
    rsplitColon (h ++ ':' :: p) = some (h, p) := by
  have := takeWhile_rev p (':' :: h.reverse) hp
  simp only [List.takeWhile_cons, bne_self_eq_false, Bool.false_eq_true, if_false, List.append_nil] at this
  simp [rsplitColon, this, List.drop_append]

private theorem rsplitColon_none (s : List Char) (hs : ∀ c ∈ s, c ≠ ':') : rsplitColon s = none := by
  have := takeWhile_rev s [] hs
  simp only [List.takeWhile_nil, List.append_nil] at this
  simp [rsplitColon, this]

private theorem filter_plain (h : List Char) (hh : ∀ c ∈ h, c ≠ '[' ∧ c ≠ ']') :
    h.filter (fun c => c != '[' && c != ']') = h := by
  rw [List.filter_eq_self]; intro c hc; simpa using hh c hc

private theorem parseNat_some (p : List Char) (hp : digits p) : ∃ n, parseNat p = some n := by
  have : ∀ (l : List Char) (acc : Nat), (∀ c ∈ l, '0' ≤ c ∧ c ≤ '9') →
      ∃ n, l.foldl (fun acc c => match acc, digitVal c with | some a, some d => some (10 * a + d) | _, _ => none) (some acc) = some n := by
    intro l
    induction l with
    | nil => intro acc _; exact ⟨acc, rfl⟩
    | cons c t ih =>
      intro acc hl
      simp only [List.foldl_cons, digitVal, hl c (by simp), and_self, if_true]
      exact ih _ (fun c' hc' => hl c' (by simp [hc']))
  unfold parseNat
  rw [if_neg hp.1]
  exact this p 0 hp.2

private theorem digits_no (p : List Char) (hp : digits p) (x : Char) (hx : ¬ ('0' ≤ x ∧ x ≤ '9')) : ∀ c ∈ p, c ≠ x := by
  intro c hc hcx; subst hcx; exact hx (hp.2 c hc)

/-- every inet bind: the family follows from the host that is bound, nothing else -/
theorem bind_family_of_host (s : List Char) : ∀ v6 h p, parseInet s = .inet v6 h p → v6 = h.contains ':' := by
  intro v6 h p hp
  simp only [parseInet, bind_family_spec] at hp
  injection hp with h1 h2 _
  rw [← h1, ← h2]

/-- `parseInet` on a string without brackets: `host:port` when what stands behind the last colon is a decimal number, else the
    whole string on the default port -/
private theorem parseInet_plain (s : List Char) (hb : ∀ c ∈ s, c ≠ '[' ∧ c ≠ ']') :
    parseInet s = match rsplitColon s with
      | some (h, p) => (match parseNat p with
        | some n => .inet (h.contains ':') h n
        | none => .inet (s.contains ':') s 8000)
      | none => .inet (s.contains ':') s 8000 := by
  have hhd : (s.head? == some '[') = false := by
    cases s with
    | nil => rfl
    | cons a t => simpa using (hb a (by simp)).1
  simp only [parseInet, bind_family_spec, filter_plain s hb, hhd, Bool.false_and, Bool.false_eq_true, if_false]
  cases rsplitColon s with
  | none => rfl
  | some hp => obtain ⟨a, p⟩ := hp; cases hn : parseNat p <;> simp only [hn]

/-- brackets only serve to tell `[host]` from the rest: a string that does not end in one is read as if it had none -/
private theorem parseInet_filter (s : List Char) (hl : s.getLast? ≠ some ']') :
    parseInet s = parseInet (s.filter (fun c => c != '[' && c != ']')) := by
  rw [parseInet_plain (s.filter _) (fun c hc => by simpa using (List.mem_filter.mp hc).2)]
  have hl' : (s.getLast? == some ']') = false := by simpa using hl
  simp only [parseInet, bind_family_spec, hl', Bool.and_false, Bool.false_eq_true, if_false]
  cases rsplitColon (s.filter _) with
  | none => rfl
  | some hp => obtain ⟨a, p⟩ := hp; cases hn : parseNat p <;> simp only [hn]

private theorem parseInet_host_port (h p : List Char) (n : Nat) (hh : ∀ c ∈ h, c ≠ '[' ∧ c ≠ ']') (hp : digits p)
    (hn : parseNat p = some n) : parseInet (h ++ ':' :: p) = .inet (h.contains ':') h n := by
  have hb : ∀ c ∈ h ++ ':' :: p, c ≠ '[' ∧ c ≠ ']' := by
    intro c hc
    rcases List.mem_append.mp hc with hc | hc
    · exact hh c hc
    · rcases List.mem_cons.mp hc with rfl | hc
      · decide
      · exact ⟨digits_no p hp '[' (by decide) c hc, digits_no p hp ']' (by decide) c hc⟩
  rw [parseInet_plain _ hb, rsplitColon_append h p (digits_no p hp ':' (by decide))]
  simp only [hn]

private theorem parseBind_inet (s : List Char) (hnu : "unix:".toList.isPrefixOf s = false)
    (hnf : "fd://".toList.isPrefixOf s = false) : parseBind s = parseInet s := by
  unfold parseBind
  rw [hnu, hnf]
  rfl

private theorem unixP : "unix:".toList = ['u', 'n', 'i', 'x', ':'] := by decide
private theorem fdP : "fd://".toList = ['f', 'd', ':', '/', '/'] := by decide

private theorem parseBind_bracket (s t : List Char) : parseBind ('[' :: s ++ t) = parseInet ('[' :: s ++ t) :=
  parseBind_inet _ (by simp [unixP, List.isPrefixOf]) (by simp [fdP, List.isPrefixOf])

/-- a list is cut at the first occurrence of `c` in one way only -/
private theorem cut_at_first {α} {c : α} : ∀ {a b x y : List α}, c ∉ a → c ∉ b → a ++ c :: x = b ++ c :: y → a = b ∧ x = y
  | [], [], _, _, _, _, h => ⟨rfl, List.tail_eq_of_cons_eq h⟩
  | [], d :: b, _, _, _, hb, h => absurd (List.head_eq_of_cons_eq h) (fun e => hb (e ▸ List.mem_cons_self))
  | e :: a, [], _, _, ha, _, h => absurd (List.head_eq_of_cons_eq h) (fun e' => ha (e' ▸ List.mem_cons_self))
  | e :: a, d :: b, _, _, ha, hb, h => by
    obtain ⟨rfl, ht⟩ := List.cons_eq_cons.mp h
    obtain ⟨rfl, rfl⟩ := cut_at_first (fun m => ha (List.mem_cons_of_mem _ m)) (fun m => hb (List.mem_cons_of_mem _ m)) ht
    exact ⟨rfl, rfl⟩

/-- a scheme prefix `a:x` in front of `h:rest`, neither `a` nor `h` holding a colon: `a` is `h` and `x` starts `rest` -/
private theorem scheme_prefix (a x h rest : List Char) (ha : ':' ∉ a) (hh : plainHost h)
    (hp : (a ++ ':' :: x).isPrefixOf (h ++ ':' :: rest) = true) : a = h ∧ x <+: rest := by
  obtain ⟨t, ht⟩ := List.isPrefixOf_iff_prefix.mp hp
  rw [List.append_assoc, List.cons_append] at ht
  obtain ⟨rfl, rfl⟩ := cut_at_first ha (fun m => (hh _ m).1 rfl) ht
  exact ⟨rfl, List.prefix_append _ _⟩

/-- **`host:port`**: a name / IPv4 host and a decimal port give an AF_INET bind on exactly that host and port
    (the one ambiguous spelling, host `unix`, is excluded: `unix:80` is a unix-socket path) -/
theorem bind_host_port (h p : List Char) (hh : plainHost h) (hp : digits p) (hne : h ≠ "unix".toList) :
    ∃ n, parseNat p = some n ∧ parseBind (h ++ ':' :: p) = .inet false h n := by
  obtain ⟨n, hn⟩ := parseNat_some p hp
  have hnu : "unix:".toList.isPrefixOf (h ++ ':' :: p) = false :=
    Bool.eq_false_iff.mpr fun hb => hne (scheme_prefix "unix".toList [] h p (by decide) hh hb).1.symm
  have hnf : "fd://".toList.isPrefixOf (h ++ ':' :: p) = false :=
    Bool.eq_false_iff.mpr fun hb => by
      obtain ⟨t, rfl⟩ := (scheme_prefix "fd".toList "//".toList h p (by decide) hh hb).2
      exact digits_no _ hp '/' (by decide) '/' (List.mem_append_left _ (by decide)) rfl
  have hc : h.contains ':' = false := Bool.eq_false_iff.mpr fun hb => (hh ':' (by simpa using hb)).1 rfl
  exact ⟨n, hn, by rw [parseBind_inet _ hnu hnf, parseInet_host_port h p n (fun c hc => (hh c hc).2) hp hn, hc]⟩

/-- **bare host**: port 8000 -/
theorem bind_bare_host (h : List Char) (hh : plainHost h) : parseBind h = .inet false h 8000 := by
  have hnp : ∀ pre : List Char, ':' ∈ pre → pre.isPrefixOf h = false := fun pre hc =>
    Bool.eq_false_iff.mpr fun hb => by
      obtain ⟨t, rfl⟩ := List.isPrefixOf_iff_prefix.mp hb
      exact (hh ':' (List.mem_append_left _ hc)).1 rfl
  have hc : h.contains ':' = false := Bool.eq_false_iff.mpr fun hb => (hh ':' (by simpa using hb)).1 rfl
  rw [parseBind_inet h (hnp _ (by decide)) (hnp _ (by decide)), parseInet_plain h (fun c hc => (hh c hc).2),
    rsplitColon_none h (fun c hc => (hh c hc).1), hc]

/-- **`[IPv6]:port`**: an AF_INET6 bind on the bracketed address and the port -/
theorem bind_v6_port (h p : List Char) (hh : v6chars h) (hp : digits p) :
    ∃ n, parseNat p = some n ∧ parseBind ('[' :: h ++ ']' :: ':' :: p) = .inet true h n := by
  obtain ⟨n, hn⟩ := parseNat_some p hp
  have hpb : ∀ c ∈ p, c ≠ '[' ∧ c ≠ ']' := fun c hc => ⟨digits_no p hp '[' (by decide) c hc, digits_no p hp ']' (by decide) c hc⟩
  have hf : ('[' :: h ++ ']' :: ':' :: p).filter (fun c => c != '[' && c != ']') = h ++ ':' :: p := by
    simp [List.filter_append, filter_plain h hh.2, filter_plain p hpb]
  -- the string ends with the last digit of the port
  have hl : ('[' :: h ++ ']' :: ':' :: p).getLast? ≠ some ']' := by
    obtain ⟨c, hc⟩ := Option.isSome_iff_exists.mp (List.getLast?_isSome.mpr hp.1)
    rw [show '[' :: h ++ ']' :: ':' :: p = ('[' :: h ++ [']', ':']) ++ p by simp, List.getLast?_append, hc]
    exact fun e => (hpb c (List.mem_of_getLast? hc)).2 (by simpa using e)
  refine ⟨n, hn, ?_⟩
  rw [parseBind_bracket, parseInet_filter _ hl, hf, parseInet_host_port h p n hh.2 hp hn]
  simp [hh.1]

/-- **bare `[IPv6]`**: the bracketed address on the default port 8000 -/
theorem bind_bare_v6 (h : List Char) (hh : v6chars h) : parseBind ('[' :: h ++ [']']) = .inet true h 8000 := by
  have hl : ('[' :: (h ++ [']'])).getLast? = some ']' := List.getLast?_concat (l := '[' :: h)
  rw [parseBind_bracket]
  simp [parseInet, hl, List.filter_append, filter_plain h hh.2, hh.1, bind_family_spec]

/-- **a bare IPv6 host written without brackets** (`::`, `fe80::a`, `2001:db8::beef`, `::ffff:192.0.2.1`): what stands behind
    the last colon is no decimal number, so the whole string is the host, on the default port - and the family is AF_INET6
    exactly as for the bracketed spelling (`bind_bare_v6`) -/
theorem bind_bare_v6_unbracketed (h : List Char) (hh : v6chars h)
    (hnu : "unix:".toList.isPrefixOf h = false) (hnf : "fd://".toList.isPrefixOf h = false)
    (htail : ∀ a p, rsplitColon h = some (a, p) → parseNat p = none) :
    parseBind h = .inet true h 8000 := by
  have hc : h.contains ':' = true := by simpa using hh.1
  rw [parseBind_inet h hnu hnf, parseInet_plain h hh.2, hc]
  cases hs : rsplitColon h with
  | none => rfl
  | some ap => simp only [htail ap.1 ap.2 hs]

/-- the one ambiguous spelling (like the host `unix`): an unbracketed literal whose last group is a decimal number (`::1`,
    `2001:db8::8a2e:370:7334`) is of the shape `host:port` and is read so; the family still follows the host that is bound -/
theorem bind_unbracketed_decimal_tail (s a p : List Char) (n : Nat) (hb : ∀ c ∈ s, c ≠ '[' ∧ c ≠ ']')
    (hnu : "unix:".toList.isPrefixOf s = false) (hnf : "fd://".toList.isPrefixOf s = false)
    (hs : rsplitColon s = some (a, p)) (hn : parseNat p = some n) :
    parseBind s = .inet (a.contains ':') a n := by
  rw [parseBind_inet s hnu hnf, parseInet_plain s hb, hs]
  simp only [hn]

theorem bind_unix (path : List Char) : parseBind ("unix:".toList ++ path) = .unix path := by
  simp [parseBind, unixP, List.isPrefixOf]

theorem bind_fd (p : List Char) : parseBind ("fd://".toList ++ p) = .fd (parseNat p) := by
  simp [parseBind, fdP, unixP, List.isPrefixOf]

example : parseBind "127.0.0.1:5000".toList = .inet false "127.0.0.1".toList 5000 := by decide +kernel
example : parseBind "[::]:5000".toList = .inet true "::".toList 5000 := by decide
example : parseBind "[::]".toList = .inet true "::".toList 8000 := by decide
example : parseBind "[::1]".toList = .inet true "::1".toList 8000 := by decide
example : parseBind "localhost".toList = .inet false "localhost".toList 8000 := by decide
example : parseBind "::".toList = .inet true "::".toList 8000 := by decide
example : parseBind "fe80::a".toList = .inet true "fe80::a".toList 8000 := by decide
example : parseBind "::ffff:192.0.2.1".toList = .inet true "::ffff:192.0.2.1".toList 8000 := by decide +kernel
example : parseBind "::1".toList = .inet true ":".toList 1 := by decide      -- `host:port` wins: write `[::1]`
example : v6chars "fe80::a".toList ∧ (∀ a p, rsplitColon "fe80::a".toList = some (a, p) → parseNat p = none) := by
  refine ⟨⟨by decide, by intro c hc; simp at hc; rcases hc with rfl | rfl | rfl | rfl | rfl | rfl | rfl <;> decide⟩, ?_⟩
  intro a p h
  have : rsplitColon "fe80::a".toList = some ("fe80:".toList, "a".toList) := by decide
  rw [this] at h
  injection h with h; injection h with _ h2; subst h2; decide

/-! ### A list of bind strings: every entry produces its socket by itself

`bind`, `insecure_bind` and `quic_bind` are lists (several `-b` flags, a list in a configuration file); `_create_sockets` parses
them in one loop.  What an entry is bound to must not depend on the entries in front of it. -/

/-- **no local of `_create_sockets` outlives an iteration of `for bind in binds`** (`createSocketsCarried` is the result of a definite-assignment analysis of the loop body - a default that is set once in
    front of the loop and only overwritten when a bind names a port shows up here as `"port"`) -/
theorem create_sockets_loop_spec : ConfigSites.createSocketsCarried = [] := by decide

private theorem bindStep_fst (last : Nat) (s : List Char) : (bindStep last s).1 = parseBind s := by
  have h : portCarried = false := by simp [portCarried, create_sockets_loop_spec]
  unfold bindStep
  cases parseBind s <;> simp [h]

private theorem createSocketsFrom_eq (binds : List (List Char)) : ∀ last, createSocketsFrom last binds = binds.map parseBind := by
  induction binds with
  | nil => intro _; rfl
  | cons s rest ih => intro last; simp [createSocketsFrom, bindStep_fst, ih]

/-- **each bind string of a list is parsed as if it were given alone**, whatever stands in front of it -/
theorem create_sockets_pointwise (binds : List (List Char)) : createSockets binds = binds.map parseBind :=
  createSocketsFrom_eq binds 8000

theorem create_sockets_entry (binds : List (List Char)) (i : Nat) : (createSockets binds)[i]? = (binds[i]?).map parseBind := by
  simp [create_sockets_pointwise]

theorem create_sockets_append (a b : List (List Char)) : createSockets (a ++ b) = createSockets a ++ createSockets b := by
  simp [create_sockets_pointwise]

/-- a bare host is bound to port 8000 wherever it stands in the list (in particular behind a `host:port` entry) -/
theorem bind_bare_host_in_list (pre post : List (List Char)) (h : List Char) (hh : plainHost h) :
    (createSockets (pre ++ h :: post))[pre.length]? = some (.inet false h 8000) := by
  simp [create_sockets_pointwise, bind_bare_host h hh]

/-- ... and so is a bracketed IPv6 literal without a port -/
theorem bind_bare_v6_in_list (pre post : List (List Char)) (h : List Char) (hh : v6chars h) :
    (createSockets (pre ++ ('[' :: h ++ [']']) :: post))[pre.length]? = some (.inet true h 8000) := by
  have e := bind_bare_v6 h hh
  simp only [List.cons_append] at e
  simp [create_sockets_pointwise, e]

example : createSockets ["127.0.0.1:5000".toList, "127.0.0.2".toList, "unix:/x".toList, "[::1]".toList, "[::]:443".toList, "h".toList] =
    [.inet false "127.0.0.1".toList 5000, .inet false "127.0.0.2".toList 8000, .unix "/x".toList, .inet true "::1".toList 8000,
     .inet true "::".toList 443, .inet false "h".toList 8000] := by decide +kernel

/-! ### RFC 7231 date and the server's own response headers -/

/-- 253402300799 = 2932896 · 86400 + 86399 is the last second of day 2932896 (9999-12-31), the last day for which
    `civil_range` bounds the year -/
theorem date_fields_in_range (t : Nat) (ht : t ≤ 253402300799) :
    (fields t).wd < 7 ∧ 1 ≤ (fields t).day ∧ (fields t).day ≤ 31 ∧ 1 ≤ (fields t).mon ∧ (fields t).mon ≤ 12 ∧
    (fields t).year ≤ 9999 ∧ (fields t).hh < 24 ∧ (fields t).mm < 60 ∧ (fields t).ss < 60 := by
  obtain ⟨d1, d31, m1, m12, y⟩ := civil_range (t / 86400)
  simp only [fields]
  exact ⟨by omega, d1, d31, m1, m12, y (by omega), by omega, by omega, by omega⟩

/-- **the date header is a well-formed IMF-fixdate**: 29 characters `Day, DD Mon YYYY HH:MM:SS GMT`,
    every field in range, for every second up to 9999-12-31T23:59:59Z -/
theorem date_wellformed (t : Nat) (ht : t ≤ 253402300799) :
    (formatDate t).length = 29 ∧
    ∃ f : Fields, formatDate t = render f ∧ f.wd < 7 ∧ 1 ≤ f.day ∧ f.day ≤ 31 ∧ 1 ≤ f.mon ∧ f.mon ≤ 12 ∧
      f.year ≤ 9999 ∧ f.hh < 24 ∧ f.mm < 60 ∧ f.ss < 60 := by
  have hr := date_fields_in_range t ht
  exact ⟨render_length (fields t) hr.1 hr.2.2.2.2.1, fields t, rfl, hr⟩

example : formatDate 5000 = "Thu, 01 Jan 1970 01:23:20 GMT".toList := by decide +kernel
example : formatDate 1790736000 = "Wed, 30 Sep 2026 02:40:00 GMT".toList := by decide +kernel

/-- **response headers**: only date / server / alt-svc, exactly as the switches ask, in that order -/
theorem response_headers_spec (c : HeaderCfg) (date protocol : Bytes) :
    (∀ h ∈ responseHeaders c date protocol, h.1 = "date".b ∨ h.1 = "server".b ∨ h.1 = "alt-svc".b) ∧
    ((("date".b, date) ∈ responseHeaders c date protocol) ↔ c.includeDate = true) ∧
    ((("server".b, "hypercorn-".b ++ protocol) ∈ responseHeaders c date protocol) ↔ c.includeServer = true) ∧
    (responseHeaders c date protocol).filterMap (fun h => if h.1 = "alt-svc".b then some h.2 else none) = c.altSvc := by
  have d1 : "date".b ≠ "server".b := by decide
  have d2 : "date".b ≠ "alt-svc".b := by decide
  have d3 : "server".b ≠ "alt-svc".b := by decide
  refine ⟨?_, by simp [mem_responseHeaders, d1, d2.symm], by simp [mem_responseHeaders, d1.symm, d3.symm], ?_⟩
  · intro h hh
    rcases (mem_responseHeaders c date protocol h).mp hh with ⟨_, rfl⟩ | ⟨_, rfl⟩ | ⟨a, _, rfl⟩
    · exact .inl rfl
    · exact .inr (.inl rfl)
    · exact .inr (.inr rfl)
  · -- the date and server entries are not `alt-svc`, the rest are the `alt-svc` values in order
    have hno : ∀ (b : Bool) (x : Header), x.1 ≠ "alt-svc".b →
        (if b then [x] else []).filterMap (fun h => if h.1 = "alt-svc".b then some h.2 else none) = [] := by
      intro b x hx; cases b <;> simp [hx]
    simp [responseHeaders, List.filterMap_map, Function.comp_def, hno _ ("date".b, date) d2, hno _ ("server".b, _) d3]
/-! ### Several `Config` objects: derived state stays with the object that derived it

Model: `HC/Pure/ConfigObjects.lean` (a class-level list, objects, histories of `Config()` / attribute assignments /
`create_sockets()`); facts about the source: `HC/Extracted/ConfigState.lean`. -/

/-- **`_set_quic_addresses` starts from a fresh empty list bound on the instance** (the
    obligation a method that appends to whatever list the attribute lookup finds - the class's - does not meet) -/
theorem quic_addresses_reset_spec : ConfigState.quicAddressesReset = true := by decide

/-- **no state of `config.py` is shared between `Config` objects behind their back**: no in-place change of a mutable class-level
    default (or of a mutable module-level name) that is not preceded by a rebinding on the same object, no attribute kept on the
    class, no memoised function -/
theorem config_shared_state_spec :
    ConfigState.configSharedMutations = [] ∧ ConfigState.configClassAccess = [] ∧ ConfigState.configMemoised = [] := by decide

/-- `create_sockets()` records the QUIC addresses of the call it is whether or not TLS is on (F117: with the call inside the TLS
    branch only, as before /repo c5ea7af, the addresses of an earlier call under TLS stay) -/
theorem quic_set_always_spec : HC.Extracted.Guards.configQuicSetAlways = true := by decide

/-- every operation is local: `Config()` appends a fresh object, any other operation replaces its target by what
    `objStep` makes of it (and does nothing when there is no such object); the class's list is not touched -/
private theorem step_eq (w : World) (op : Op) :
    step w op = match op.target with
      | none => { w with objs := w.objs ++ [Obj.fresh] }
      | some j => match w.objs[j]? with
        | some oj => { w with objs := w.objs.set j (objStep oj op) }
        | none => w := by
  unfold step quicReset
  rw [quic_addresses_reset_spec]
  cases op with
  | new => rfl
  | setDate j b | setServer j b | setAltSvc j b | setSsl j b => rfl
  | createSockets j q =>
    simp only [stepWith, Op.target, objStep, setQuic, quic_set_always_spec, if_true]
    cases w.objs[j]? with
    | none => rfl
    | some oj => cases hs : oj.ssl <;> simp [hs]

private theorem step_shared (w : World) (op : Op) : (step w op).shared = w.shared := by
  rw [step_eq]
  split
  · rfl
  · split <;> rfl

private theorem step_obj (w : World) (op : Op) (i : Nat) (o : Obj) (h : w.objs[i]? = some o) :
    (step w op).objs[i]? = some (if op.target = some i then objStep o op else o) := by
  have hi : i < w.objs.length := (List.getElem?_eq_some_iff.mp h).1
  rw [step_eq]
  split
  · rename_i ht; simp [ht, List.getElem?_append_left hi, h]
  · rename_i j ht
    by_cases e : j = i
    · subst e; simp only [ht, h, if_true, List.getElem?_set_self hi]
    · have : ¬ some j = some i := fun hc => e (Option.some.inj hc)
      rw [ht, if_neg this]
      split
      · rw [List.getElem?_set_ne e, h]
      · exact h

private theorem run_cons (w : World) (op : Op) (ops : List Op) : run w (op :: ops) = run (step w op) ops := rfl

private theorem run_shared (ops : List Op) : ∀ w : World, (run w ops).shared = w.shared := by
  induction ops with
  | nil => intro w; rfl
  | cons op ops ih => intro w; rw [run_cons, ih, step_shared]

/-- **no interference between `Config` objects, no accumulation**: after ANY history of operations on any number of objects, the
    list the class body binds to `_quic_addresses` is as it was, and an object is exactly what the operations applied to IT make of
    it (`ownRun`: its own settings, and the QUIC ports of its own last `create_sockets()` under TLS) -/
theorem history_own (w : World) (ops : List Op) (i : Nat) (o : Obj) (h : w.objs[i]? = some o) :
    (run w ops).shared = w.shared ∧ (run w ops).objs[i]? = some (ownRun i o ops) := by
  refine ⟨run_shared ops w, ?_⟩
  induction ops generalizing w o with
  | nil => exact h
  | cons op ops ih =>
    rw [run_cons, ih (step w op) _ (step_obj w op i o h)]
    simp [ownRun, List.foldl_cons]

theorem history_shared (ops : List Op) : (run World.init ops).shared = [] := run_shared ops World.init

private theorem run_append (w : World) (a b : List Op) : run w (a ++ b) = run (run w a) b := by
  simp [run, runWith, List.foldl_append]

/-- the object made by `Config()` after an arbitrary history `pre` (other objects with TLS and QUIC sockets included), followed by
    an arbitrary history `post`: the class defaults and the operations of `post` applied to it - nothing of `pre`, nothing that
    `post` does to other objects -/
theorem history_object (pre post : List Op) :
    (run World.init (pre ++ .new :: post)).objs[(run World.init pre).objs.length]? =
      some (ownRun (run World.init pre).objs.length Obj.fresh post) := by
  rw [run_append, run_cons]
  refine (history_own _ post _ Obj.fresh ?_).2
  unfold step
  simp [stepWith]

/-- **the response headers of an object are a function of the object alone**: its switches, its alt-svc values, else the QUIC
    ports it recorded itself -/
theorem response_headers_own (ops : List Op) (o : Obj) (alpn : List Bytes) (date protocol : Bytes) :
    objHeaders (run World.init ops) o alpn date protocol = ownHeaders o alpn date protocol := by
  simp [objHeaders, ownHeaders, quicOf, history_shared]

/-- a `Config()` made after any history answers with date and server only: it advertises no HTTP/3 endpoint it has not bound -/
theorem fresh_config_headers (pre : List Op) (alpn : List Bytes) (date protocol : Bytes) :
    (run World.init (pre ++ [.new])).objs[(run World.init pre).objs.length]? = some Obj.fresh ∧
    objHeaders (run World.init (pre ++ [.new])) Obj.fresh alpn date protocol =
      [("date".b, date), ("server".b, "hypercorn-".b ++ protocol)] := by
  refine ⟨by simpa [ownRun] using history_object pre [], ?_⟩
  rw [response_headers_own]
  simp [ownHeaders, Obj.fresh, altSvcOf, altSvcAuto, responseHeaders, Consts.cfg_include_date_header, Consts.cfg_include_server_header]

/-- `create_sockets()` twice (restart, second `serve()`): the ports of the second call, not both -/
theorem create_sockets_again (o : Obj) (i : Nat) (q1 q2 : List Nat) (hs : o.ssl = true) :
    (objStep (objStep o (.createSockets i q1)) (.createSockets i q2)).quicOwn = some q2 := by
  simp [objStep, hs]

/-- what an object advertises by itself after its `create_sockets()` under TLS, whatever else happened in the process: its own
    alt-svc values if it has any, else one value per HTTP/3 version and QUIC port of THAT call -/
theorem alt_svc_of_own_sockets (ops : List Op) (o : Obj) (i : Nat) (q : List Nat) (alpn : List Bytes) (date protocol : Bytes)
    (hs : o.ssl = true) :
    (objHeaders (run World.init ops) (objStep o (.createSockets i q)) alpn date protocol).filterMap
        (fun h => if h.1 = "alt-svc".b then some h.2 else none) =
      if o.altSvc.isEmpty then altSvcAuto alpn q else o.altSvc := by
  rw [response_headers_own]
  let c : HeaderCfg := ⟨o.includeDate, o.includeServer, if o.altSvc.isEmpty then altSvcAuto alpn q else o.altSvc⟩
  have h := (response_headers_spec c date protocol).2.2.2
  simpa [ownHeaders, objStep, hs, altSvcOf, c] using h

example : ((run World.init [.new, .setSsl 0 true, .createSockets 0 [4433], .new, .createSockets 1 [9], .createSockets 0 [4434], .new]).objs.map
    (quicOf (run World.init [.new, .setSsl 0 true, .createSockets 0 [4433], .new, .createSockets 1 [9], .createSockets 0 [4434], .new]))) =
    [[4434], [], []] := by decide

end HC.Props.C19
