import HC.Stream.WsLemmas
import HC.Stream.WsSpec
import HC.Stream.WsWire
import HC.Extracted.WsSend
import HC.Extracted.Atomic
/-!
# C10 — WebSocket message fidelity and message-size limit

Model: `HC/Stream/Ws.lean` (`WSStream._handle_events`, `WebsocketBuffer`, `app_send` for `websocket.send`); the
events wsproto yields are inputs.  Specification vocabulary: `HC/Stream/WsSpec.lean` (`CMsg` = one message as an
arbitrary fragmentation with control frames interleaved; every value is well-formed, so the theorems below quantify
over *all* message lists, fragmentations and interleavings without side conditions).

Full statement (property text): every complete message is delivered exactly once, in order, same type and payload;
every ping is answered by a pong with the same payload; a message whose accumulated size exceeds
`websocket_max_message_size` is never delivered, nor is anything after it, and the server closes with 1009;
application messages reach the client with identical type and payload, in order.

All of it is proved at full strength: `receive_fidelity`, `segmentation_independence`, `ping_pong`, `limit_text`,
`limit_bytes`, `limit_total` (after the overflow the handler stays total and silent, for ALL later batches),
`nothing_after_overflow`, `send_fidelity`, `send_sequence`; and, for the several tasks that write to one WebSocket stream
(application, reader task's replies, ping task) under EVERY schedule of their suspension points:
`send_frames_never_interleaved`, `send_stream_parses`, `send_fidelity_concurrent` (model `HC/Stream/WsWire.lean`, granularity
read off the source by `frame_hand_over_assumed`).  (Before the repair of F05 — `extend` now refuses
everything once the buffer is over the limit — a later fragment of the other kind raised `TypeError`.)
-/
namespace HC.Props.C10
open HC HC.Stream HC.Stream.Ws HC.Extracted

/-! ### `_handle_events` is a left-to-right fold that stops at `break` / raise (`Ws.handleEvents_eq_runEvs`); batching does not matter -/

private theorem runEvs_append (a : List WsEv) : ∀ (s : S) (b : List WsEv),
    runEvs s (a ++ b) =
      if (runEvs s a).2 then (((runEvs s a).1).seq (runEvs (runEvs s a).1.1 b).1, (runEvs (runEvs s a).1.1 b).2)
      else runEvs s a := by
  induction a with
  | nil => intro s b; simp [runEvs, HOut.seq]
  | cons ev rest ih =>
    intro s b
    simp only [List.cons_append, runEvs]
    by_cases hc : (stepEv s ev).2 = true
    · simp only [hc, if_true, ih]
      by_cases hc2 : (runEvs (stepEv s ev).1.1 rest).2 = true
      · simp [hc2, HOut.seq]
      · simp [hc2]
    · simp [hc]

/-- the extracted comparison `self.length > self.max_length` is the strict one: exactly `max` is still accepted -/
private theorem cmp_iff (n m : Nat) : Guards.wsBufferCmp.eval n m = true ↔ n > m := by
  simp [Guards.wsBufferCmp, Guards.Cmp.eval]

/-- the boundary is exact: a message of exactly `maxLength` characters / bytes is delivered (`receive_fidelity` needs
    only `size ≤ maxLength`), `maxLength + 1` is not (`limit_*` needs only `>`) -/
theorem limit_boundary (n m : Nat) : (Guards.wsBufferCmp.eval n m = false ↔ n ≤ m) := by
  rw [← Bool.not_eq_true, cmp_iff]
  exact Nat.not_lt

/-- buffer `b` holds the fragments received so far (`a`) of a message of kind `mk` -/
def AccB {β : Type} (mk : List β → Payload) (b : Buffer) (a : List β) : Prop :=
  b.length = a.length ∧ (b.value = some (mk a) ∨ (b.value = none ∧ a = []))

/-- `mk` is one of the two payload kinds: extending a buffer of that kind appends and counts elements -/
def IsKind {β : Type} (mk : List β → Payload) : Prop :=
  ∀ (b : Buffer) (a c : List β), Guards.wsBufferCmp.eval b.length b.maxLength = false →
    (b.value = some (mk a) ∨ (b.value = none ∧ a = [])) →
    b.extend (mk c) = ({ b with value := some (mk (a ++ c)), length := b.length + c.length },
      if Guards.wsBufferCmp.eval (b.length + c.length) b.maxLength then some .tooLarge else none)

theorem isKind_text : IsKind Payload.text := by
  intro b a c hn h
  rcases h with h | ⟨h, rfl⟩ <;> simp [Buffer.extend, h, hn]

theorem isKind_bytes : IsKind Payload.bytes := by
  intro b a c hn h
  rcases h with h | ⟨h, rfl⟩ <;> simp [Buffer.extend, h, hn]

theorem runEvs_ctl (cs : List Ctl) (s : S) (hopen : s.conn = some .open) :
    runEvs s (ctlEvs cs) = ((s, [], pongsFor cs, none), true) := by
  induction cs with
  | nil => rfl
  | cons c r ih =>
    cases c with
    | ping p =>
      have h1 : stepEv s (.ping p) = ((s, [], [.data (.pong p)], none), true) := by
        have hs : { s with conn := some ConnSt.open } = s := by cases s; simp_all
        simp [stepEv, sendWs, hopen, connSend, hs]
      simp only [ctlEvs, List.map_cons, Ctl.ev] at ih ⊢
      simp [runEvs, h1, ih, HOut.seq, pongsFor]
    | pong p =>
      simp only [ctlEvs, List.map_cons, Ctl.ev] at ih ⊢
      simp [runEvs, stepEv, ih, HOut.seq, pongsFor]

private theorem pongsFor_append (a b : List Ctl) : pongsFor (a ++ b) = pongsFor a ++ pongsFor b := by
  induction a with
  | nil => rfl
  | cons c r ih => cases c <;> simp [pongsFor, ih]

/-- non-final fragments within the limit only accumulate: nothing is delivered, pings are answered -/
theorem runEvs_part {β : Type} (mk : List β → Payload) (hk : IsKind mk) (fs : List (List Ctl × List β)) :
    ∀ (s : S) (a : List β), s.conn = some .open → AccB mk s.buffer a →
      a.length + (partData fs).length ≤ s.buffer.maxLength →
      ∃ b', runEvs s (partEvs mk fs) = (({ s with buffer := b' }, [], pongsFor (partCtl fs), none), true) ∧
        AccB mk b' (a ++ partData fs) ∧ b'.maxLength = s.buffer.maxLength := by
  induction fs with
  | nil =>
    intro s a hopen hacc hlim
    refine ⟨s.buffer, ?_, by simpa [partData] using hacc, rfl⟩
    simp [partEvs, runEvs, partCtl, pongsFor]
  | cons f r ih =>
    intro s a hopen hacc hlim
    obtain ⟨cs, d⟩ := f
    have hd : partData ((cs, d) :: r) = d ++ partData r := by simp [partData]
    have hc : partCtl ((cs, d) :: r) = cs ++ partCtl r := by simp [partCtl]
    rw [hd] at hlim ⊢
    simp only [List.length_append] at hlim
    have hnc : Guards.wsBufferCmp.eval (s.buffer.length + d.length) s.buffer.maxLength = false :=
      (limit_boundary _ _).mpr (by have := hacc.1; omega)
    let b1 : Buffer := { s.buffer with value := some (mk (a ++ d)), length := s.buffer.length + d.length }
    have hstep : stepEv s (.message (mk d) false) = (({ s with buffer := b1 }, [], [], none), true) := by
      simp [stepEv, hk s.buffer a d ((limit_boundary _ _).mpr (by have := hacc.1; omega)) hacc.2, hnc, b1]
    have hacc1 : AccB mk b1 (a ++ d) := ⟨by simp [b1, hacc.1], Or.inl rfl⟩
    obtain ⟨b', h1, h2, h3⟩ := ih { s with buffer := b1 } (a ++ d) hopen hacc1 (by simp [b1]; omega)
    refine ⟨b', ?_, by simpa [List.append_assoc] using h2, by simpa [b1] using h3⟩
    simp only [partEvs, List.append_assoc, runEvs_append, runEvs_ctl cs s hopen, if_true, hc, pongsFor_append]
    simp [runEvs, hstep, h1, HOut.seq]

/-! ### receive fidelity -/

/-- wsproto's connection is OPEN and nothing is buffered -/
def Fresh (s : S) : Prop := s.conn = some .open ∧ s.buffer.value = none ∧ s.buffer.length = 0

instance (s : S) : Decidable (Fresh s) := inferInstanceAs (Decidable (_ ∧ _ ∧ _))

private theorem fresh_clear (s : S) (b' : Buffer) (hf : Fresh s) (hm : b'.maxLength = s.buffer.maxLength) :
    { s with buffer := b'.clear } = s := by
  obtain ⟨_, h2, h3⟩ := hf
  cases s with | mk st closed hs conn buffer response hasAppPut pingInterval clientCloseCode =>
  cases buffer; cases b'; simp_all [Buffer.clear]

/-- the final fragment delivers the concatenation and empties the buffer -/
theorem runEvs_final {β : Type} (mk : List β → Payload) (hk : IsKind mk) (s : S) (a l : List β) (lc : List Ctl)
    (hopen : s.conn = some .open) (hacc : AccB mk s.buffer a) (hlim : a.length + l.length ≤ s.buffer.maxLength) :
    runEvs s (ctlEvs lc ++ [.message (mk l) true]) =
      (({ s with buffer := s.buffer.clear }, [.receive (mk (a ++ l))], pongsFor lc, none), true) := by
  have hnc : Guards.wsBufferCmp.eval (s.buffer.length + l.length) s.buffer.maxLength = false :=
    (limit_boundary _ _).mpr (by have := hacc.1; omega)
  have hstep : stepEv s (.message (mk l) true) =
      (({ s with buffer := s.buffer.clear }, [.receive (mk (a ++ l))], [], none), true) := by
    simp [stepEv, hk s.buffer a l ((limit_boundary _ _).mpr (by have := hacc.1; omega)) hacc.2, hnc, Buffer.clear]
  simp only [runEvs_append, runEvs_ctl lc s hopen, if_true]
  simp [runEvs, hstep, HOut.seq]

/-- a complete message of kind `mk`: non-final fragments, control frames, the final fragment -/
theorem runEvs_msg_kind {β : Type} (mk : List β → Payload) (hk : IsKind mk) (init : List (List Ctl × List β)) (lc : List Ctl)
    (l : List β) (s : S) (hf : Fresh s) (hlim : (partData init ++ l).length ≤ s.buffer.maxLength) :
    runEvs s (partEvs mk init ++ ctlEvs lc ++ [.message (mk l) true]) =
      ((s, [.receive (mk (partData init ++ l))], pongsFor (partCtl init ++ lc), none), true) := by
  simp only [List.length_append] at hlim
  obtain ⟨b', h1, h2, h3⟩ := runEvs_part mk hk init s [] hf.1 ⟨by simp [hf.2.2], Or.inr ⟨hf.2.1, rfl⟩⟩ (by simp; omega)
  have hfin := runEvs_final mk hk { s with buffer := b' } (partData init) l lc hf.1 (by simpa using h2) (by simp [h3]; omega)
  simp only [List.append_assoc, runEvs_append, h1, if_true, hfin]
  simp [HOut.seq, pongsFor_append, fresh_clear s b' hf h3]

/-- **one complete message, however fragmented and whatever control frames are interleaved, is delivered once with
    the concatenated payload, and the stream is back in the state it started from** -/
theorem runEvs_msg (m : CMsg) (s : S) (hf : Fresh s) (hlim : m.size ≤ s.buffer.maxLength) :
    runEvs s m.evs = ((s, [.receive m.payload], pongsFor m.ctl, none), true) := by
  cases m with
  | text init lc l => exact runEvs_msg_kind Payload.text isKind_text init lc l s hf hlim
  | bytes init lc l => exact runEvs_msg_kind Payload.bytes isKind_bytes init lc l s hf hlim

theorem runEvs_msgs (ms : List CMsg) (s : S) (hf : Fresh s) (hlim : ∀ m ∈ ms, m.size ≤ s.buffer.maxLength) :
    runEvs s (msgsEvs ms) = ((s, ms.map (fun m => AppMsg.receive m.payload), pongsFor (msgsCtl ms), none), true) := by
  induction ms with
  | nil => rfl
  | cons m r ih =>
    have h1 := runEvs_msg m s hf (hlim m (by simp))
    have h2 := ih (fun x hx => hlim x (by simp [hx]))
    simp only [msgsEvs, msgsCtl, List.map_cons, List.flatten_cons] at h2 ⊢
    simp [runEvs_append, h1, h2, HOut.seq, pongsFor_append]

theorem runEvs_session (ms : List CMsg) (trail : List Ctl) (s : S) (hf : Fresh s)
    (hlim : ∀ m ∈ ms, m.size ≤ s.buffer.maxLength) :
    runEvs s (sessionEvs ms trail) =
      ((s, ms.map (fun m => AppMsg.receive m.payload), pongsFor (msgsCtl ms ++ trail), none), true) := by
  simp [sessionEvs, runEvs_append, runEvs_msgs ms s hf hlim, runEvs_ctl trail s hf.1, HOut.seq, pongsFor_append]

/-- **receive fidelity**: for EVERY list of messages within the limit, EVERY fragmentation of each, EVERY
    interleaving of pings / pongs, the application is handed exactly the messages (kind and concatenated payload),
    in order, each once; nothing raises; the buffer is empty afterwards (the state is the one it started from);
    and the frames sent are exactly one pong per ping, same payload, same order -/
theorem receive_fidelity (s : S) (ms : List CMsg) (trail : List Ctl) (hf : Fresh s)
    (hlim : ∀ m ∈ ms, m.size ≤ s.buffer.maxLength) :
    handleEvents s (sessionEvs ms trail) =
      (s, ms.map (fun m => AppMsg.receive m.payload), pongsFor (msgsCtl ms ++ trail), none) := by
  rw [handleEvents_eq_runEvs, runEvs_session ms trail s hf hlim]

/-! ### batching / segmentation independence -/

/-- **two reads or one**: if the loop ran to the end of the first batch, handling `evs1` and then `evs2` is handling
    `evs1 ++ evs2` -/
theorem batching (s : S) (evs1 evs2 : List WsEv) (h : (runEvs s evs1).2 = true) :
    handleEvents s (evs1 ++ evs2) = HOut.seq (handleEvents s evs1) (handleEvents (handleEvents s evs1).1 evs2) := by
  simp [handleEvents_eq_runEvs, runEvs_append, h]

/-- after a `break` (over-limit message) or a raise, the rest of the batch is not looked at -/
theorem batching_stop (s : S) (evs1 evs2 : List WsEv) (h : (runEvs s evs1).2 = false) :
    handleEvents s (evs1 ++ evs2) = handleEvents s evs1 := by
  simp [handleEvents_eq_runEvs, runEvs_append, h]

/-- the batches of one connection handled one after the other -/
def feedBatches : S → List (List WsEv) → HOut
  | s, [] => (s, [], [], none)
  | s, b :: bs => HOut.seq (handleEvents s b) (feedBatches (handleEvents s b).1 bs)

private theorem feedBatches_eq (bs : List (List WsEv)) : ∀ (s : S), (runEvs s bs.flatten).2 = true →
    feedBatches s bs = handleEvents s bs.flatten := by
  induction bs with
  | nil => intro s _; rfl
  | cons b r ih =>
    intro s h
    simp only [List.flatten_cons, runEvs_append] at h ⊢
    -- the loop ran through `b ++ r.flatten`, so it ran through `b` and then through the rest
    by_cases hb : (runEvs s b).2 = true
    case neg => simp [hb] at h
    have hr : (runEvs (runEvs s b).1.1 r.flatten).2 = true := by simpa [hb] using h
    simp only [feedBatches, batching s b r.flatten hb]
    rw [ih _ (by simpa [handleEvents_eq_runEvs] using hr)]

/-- **segmentation independence of `receive_fidelity`**: however the session's events are cut into batches (reads),
    the application receives the same messages and the client the same pongs -/
theorem segmentation_independence (s : S) (ms : List CMsg) (trail : List Ctl) (hf : Fresh s)
    (hlim : ∀ m ∈ ms, m.size ≤ s.buffer.maxLength) (batches : List (List WsEv))
    (hcut : batches.flatten = sessionEvs ms trail) :
    feedBatches s batches = (s, ms.map (fun m => AppMsg.receive m.payload), pongsFor (msgsCtl ms ++ trail), none) := by
  rw [feedBatches_eq batches s (by rw [hcut, runEvs_session ms trail s hf hlim]), hcut]
  exact receive_fidelity s ms trail hf hlim

/-! ### ping / pong -/

def pingPayloads : List Ctl → List Bytes
  | [] => []
  | .ping p :: r => p :: pingPayloads r
  | .pong _ :: r => pingPayloads r

/-- **every ping is answered by a pong with the same payload, in order** (unsolicited pongs are ignored) -/
theorem ping_pong (cs : List Ctl) : pongsFor cs = (pingPayloads cs).map (fun p => Ev.data (.pong p)) := by
  induction cs with
  | nil => rfl
  | cons c r ih => cases c <;> simp [pongsFor, pingPayloads, ih]

theorem ping_answered (s : S) (p : Bytes) (hopen : s.conn = some .open) :
    handleEvents s [.ping p] = (s, [], [.data (.pong p)], none) := by
  have := runEvs_ctl [.ping p] s hopen
  rw [handleEvents_eq_runEvs]; simpa [ctlEvs, Ctl.ev, pongsFor] using congrArg Prod.fst this

/-- honest boundary: once a close frame has been sent or received wsproto refuses the pong (`LocalProtocolError`,
    swallowed by `_send_wsproto_event`) — the ping is then not answered -/
theorem ping_not_answered_when_closing (s : S) (p : Bytes) (c : ConnSt) (hc : s.conn = some c) (hne : c ≠ .open) :
    handleEvents s [.ping p] = (s, [], [], none) := by
  simp [handleEvents, sendWs, hc, connSend, hne]

/-! ### the limit -/

private theorem ctl_then_over {β : Type} (mk : List β → Payload) (hk : IsKind mk) (s : S) (a c : List β) (ctl : List Ctl)
    (fin : Bool) (rest : List WsEv) (hopen : s.conn = some .open) (hacc : AccB mk s.buffer a)
    (ha : a.length ≤ s.buffer.maxLength) (hover : a.length + c.length > s.buffer.maxLength) :
    runEvs s (ctlEvs ctl ++ ([.message (mk c) fin] ++ rest)) =
      (({ s with buffer := { s.buffer with value := some (mk (a ++ c)), length := a.length + c.length },
                 conn := some .localClosing }, [], pongsFor ctl ++ [.data (.close 1009)], none), false) := by
  have hyc' : Guards.wsBufferCmp.eval (a.length + c.length) s.buffer.maxLength = true := by
    rw [cmp_iff]; exact hover
  have hstep : stepEv s (.message (mk c) fin) =
      (({ s with buffer := { s.buffer with value := some (mk (a ++ c)), length := a.length + c.length },
                 conn := some .localClosing }, [], [.data (.close 1009)], none), false) := by
    simp [stepEv, hk s.buffer a c ((limit_boundary _ _).mpr (by have := hacc.1; omega)) hacc.2, hyc', sendWs, hopen, connSend, hacc.1]
  simp only [runEvs_append, runEvs_ctl ctl s hopen, if_true]
  simp [runEvs, hstep, HOut.seq]

/-- **the limit, generic in the kind**: `pre` are complete messages within the limit; of the next message the
    fragments `part` (accumulated size still within the limit) have arrived when the fragment `c` takes the
    accumulated size over `maxLength`.  Then exactly `pre` is delivered, every ping up to that point is answered, a
    close frame with code 1009 is sent, and `rest` — the remaining fragments and everything after them in the same
    batch — has no influence at all. -/
theorem limit_generic {β : Type} (mk : List β → Payload) (hk : IsKind mk) (s : S) (pre : List CMsg)
    (part : List (List Ctl × List β)) (ctl : List Ctl) (c : List β) (fin : Bool) (rest : List WsEv) (hf : Fresh s)
    (hpre : ∀ m ∈ pre, m.size ≤ s.buffer.maxLength)
    (hpart : (partData part).length ≤ s.buffer.maxLength)
    (hover : (partData part).length + c.length > s.buffer.maxLength) :
    handleEvents s (msgsEvs pre ++ (partEvs mk part ++ (ctlEvs ctl ++ ([.message (mk c) fin] ++ rest)))) =
      ({ s with buffer := { s.buffer with value := some (mk (partData part ++ c)),
                                          length := (partData part).length + c.length },
                conn := some .localClosing },
       pre.map (fun m => AppMsg.receive m.payload),
       pongsFor (msgsCtl pre ++ partCtl part ++ ctl) ++ [.data (.close 1009)], none) := by
  have hacc0 : AccB mk s.buffer [] := ⟨by simp [hf.2.2], Or.inr ⟨hf.2.1, rfl⟩⟩
  obtain ⟨b', h1, h2, h3⟩ := runEvs_part mk hk part s [] hf.1 hacc0 (by simpa using hpart)
  have h4 := ctl_then_over mk hk { s with buffer := b' } (partData part) c ctl fin rest hf.1 (by simpa using h2)
    (by simpa [h3] using hpart) (by simpa [h3] using hover)
  rw [handleEvents_eq_runEvs]
  simp only [runEvs_append, runEvs_msgs pre s hf hpre, if_true, h1, h4]
  have hb : ({ b' with value := some (mk (partData part ++ c)), length := (partData part).length + c.length } : Buffer) =
      { s.buffer with value := some (mk (partData part ++ c)), length := (partData part).length + c.length } := by
    cases b'; cases hsb : s.buffer; simp_all
  simp [HOut.seq, pongsFor_append, hb]

/-- **limit, text**: the size that counts is the number of *characters* -/
theorem limit_text (s : S) (pre : List CMsg) (part : List (List Ctl × List Char)) (ctl : List Ctl) (c : List Char)
    (fin : Bool) (rest : List WsEv) (hf : Fresh s) (hpre : ∀ m ∈ pre, m.size ≤ s.buffer.maxLength)
    (hpart : (partData part).length ≤ s.buffer.maxLength)
    (hover : (partData part).length + c.length > s.buffer.maxLength) :
    (handleEvents s (msgsEvs pre ++ (partEvs Payload.text part ++ (ctlEvs ctl ++ ([.message (.text c) fin] ++ rest))))).2 =
      (pre.map (fun m => AppMsg.receive m.payload),
       pongsFor (msgsCtl pre ++ partCtl part ++ ctl) ++ [.data (.close 1009)], none) := by
  rw [limit_generic Payload.text isKind_text s pre part ctl c fin rest hf hpre hpart hover]

/-- **limit, binary**: the size that counts is the number of *bytes* -/
theorem limit_bytes (s : S) (pre : List CMsg) (part : List (List Ctl × Bytes)) (ctl : List Ctl) (c : Bytes)
    (fin : Bool) (rest : List WsEv) (hf : Fresh s) (hpre : ∀ m ∈ pre, m.size ≤ s.buffer.maxLength)
    (hpart : (partData part).length ≤ s.buffer.maxLength)
    (hover : (partData part).length + c.length > s.buffer.maxLength) :
    (handleEvents s (msgsEvs pre ++ (partEvs Payload.bytes part ++ (ctlEvs ctl ++ ([.message (.bytes c) fin] ++ rest))))).2 =
      (pre.map (fun m => AppMsg.receive m.payload),
       pongsFor (msgsCtl pre ++ partCtl part ++ ctl) ++ [.data (.close 1009)], none) := by
  rw [limit_generic Payload.bytes isKind_bytes s pre part ctl c fin rest hf hpre hpart hover]

/-! ### after the overflow — later batches

`break` only leaves the loop: wsproto keeps the unparsed frames and yields them on the next read, and the stream is
not closed.  The buffer stays over the limit, and `extend` refuses everything in that state (`if self.length >
self.max_length: raise FrameTooLargeError()` comes first), whatever the kind of the fragment: -/

def Over (b : Buffer) : Prop := b.length > b.maxLength

instance (b : Buffer) : Decidable (Over b) := inferInstanceAs (Decidable (_ > _))

private theorem extend_over (b : Buffer) (p : Payload) (h : Over b) : b.extend p = (b, some .tooLarge) :=
  b.extend_over_limit p ((cmp_iff _ _).mpr h)

/-- **`limit`, total half**: once a message went over the limit every later batch — whatever it contains, fragments
    of either kind included — is handled without an exception, delivers nothing, and leaves the buffer over the
    limit (so the same holds for all batches to come) -/
theorem limit_total (evs : List WsEv) : ∀ (s : S) (c : ConnSt), Over s.buffer → s.conn = some c →
    (handleEvents s evs).2.2.2 = none ∧ (handleEvents s evs).2.1 = [] ∧ Over (handleEvents s evs).1.buffer ∧
    ∃ c', (handleEvents s evs).1.conn = some c' := by
  intro s c h hc
  refine handleEvents_induct (P := fun s => Over s.buffer ∧ ∃ c, s.conn = some c)
    (R := fun _ _ r => r.2.2.2 = none ∧ r.2.1 = [] ∧ Over r.1.buffer ∧ ∃ c', r.1.conn = some c')
    (fun s hs => ⟨rfl, rfl, hs⟩) ?_ (fun _ _ _ _ hr => hr.2.2)
    (fun _ _ _ _ _ h1 h2 => ⟨h2.1, by simp [HOut.seq, h1.2.1, h2.2.1], h2.2.2⟩) evs s ⟨h, c, hc⟩
  -- the loop body on a stream whose buffer is over the limit: `extend` refuses, the rest does not look at the buffer
  intro s ev _ ⟨h, c, hc⟩
  have hst := stepped_stepEv s ev
  generalize (stepEv s ev).1 = r, (stepEv s ev).2 = go at hst ⊢
  cases hst with
  | tooLarge hx hw =>
    rw [extend_over _ _ h] at hx; cases hx
    obtain ⟨k1, _, _, _, k5⟩ := hw.keeps
    obtain ⟨k6, rfl⟩ := k5 (by simp [hc])
    exact ⟨rfl, rfl, k1 ▸ h, Option.isSome_iff_exists.mp k6⟩
  | typeError hx | final hx | fragment hx => rw [extend_over _ _ h] at hx; cases hx
  | ping hw =>
    obtain ⟨k1, _, _, _, k5⟩ := hw.keeps
    obtain ⟨k6, rfl⟩ := k5 (by simp [hc])
    exact ⟨rfl, rfl, k1 ▸ h, Option.isSome_iff_exists.mp k6⟩
  | pong | failed => exact ⟨rfl, rfl, h, c, hc⟩
  | closeEchoed | failedEchoed => exact ⟨rfl, rfl, h, _, rfl⟩
  | closeQuiet => exact ⟨rfl, rfl, h, connRecvClose c, by simp [hc]⟩

/-- **nothing after the over-limit message is ever delivered, and nothing raises** — not in the same batch
    (`limit_*`) and not in any later one: for ALL later protocol inputs (arbitrary event batches, including the frames
    wsproto kept back at the `break`, and the final `StreamClosed`) the application is put no `websocket.receive` -/
theorem nothing_after_overflow (ins : List In) : ∀ (s : S) (c : ConnSt), Over s.buffer → s.conn = some c →
    ∀ m ∈ (feedIn s ins).2.1, isReceive m = false := by
  induction ins with
  | nil => intro s c _ _ m hm; simp [feedIn] at hm
  | cons i r ih =>
    intro s c h hc m hm
    have hstep : (∀ m ∈ (handle s i).2.1, isReceive m = false) ∧ Over (handle s i).1.buffer ∧ ∃ c', (handle s i).1.conn = some c' := by
      have hh := handled_handle s i
      generalize handle s i = o at hh ⊢
      cases hh with
      | events =>
        obtain ⟨_, h1, h2, h3⟩ := limit_total _ s c h hc
        exact ⟨by simp [h1], h2, h3⟩
      | closed | ignored => exact ⟨by simp, h, c, hc⟩
      | early | lost =>
        refine ⟨?_, h, c, hc⟩
        intro m hm
        split at hm <;> simp at hm
        subst hm; rfl
    simp only [feedIn, List.mem_append] at hm
    rcases hm with hm | hm
    · exact hstep.1 m hm
    · obtain ⟨c', hc'⟩ := hstep.2.2
      exact ih _ c' hstep.2.1 hc' m hm

/-- the state `limit_generic` ends in is such a state -/
theorem limit_state_over {β : Type} (s : S) (v : Payload) (part : List β) (c : List β)
    (hover : part.length + c.length > s.buffer.maxLength) :
    Over ({ s with buffer := { s.buffer with value := some v, length := part.length + c.length },
                   conn := some ConnSt.localClosing } : S).buffer := hover

def overWitness : S :=
  { st := .connected, hs := { version := "1.1", accepted := true }, conn := some .open, buffer := { maxLength := 5 },
    hasAppPut := true }

/-- the model's own run of the scenario that used to raise `TypeError` (F05, repaired by `fix: nothing is buffered
    after a websocket message exceeded the size limit`): a 6-byte binary message against a limit of 5, then a text
    message -/
example : handle overWitness (.data [.message (.bytes [1, 2, 3, 4, 5, 6]) true]) =
    ({ overWitness with buffer := { value := some (.bytes [1, 2, 3, 4, 5, 6]), length := 6, maxLength := 5 },
                        conn := some .localClosing }, [], [.data (.close 1009)], none) := by decide +kernel
example : (handle (handle overWitness (.data [.message (.bytes [1, 2, 3, 4, 5, 6]) true])).1
    (.data [.message (.text ['o', 'k']) true])).2 = ([], [], none) := by decide +kernel

/-! ### send fidelity -/

/-- **`websocket.send` ↦ one wsproto message of the same kind and payload** (CONNECTED, connection OPEN) -/
theorem send_fidelity (token : Bytes → Bytes) (ext : Option Bytes) (s : S) (o : AppOut)
    (hc : s.closed = false) (hst : s.st = .connected) (hopen : s.conn = some .open) :
    appSend token ext s (some o.msg) = (s, [.data o.frame], none) := by
  cases s with | mk st closed hs conn buffer response hasAppPut pingInterval clientCloseCode =>
  simp only at hc hst hopen
  subst hc hst hopen
  cases o <;> simp [appSend, AppOut.msg, AppOut.frame, sendWs, connSend]

/-- **a sequence of sends yields the sequence of frames, in order, nothing else** -/
theorem send_sequence (token : Bytes → Bytes) (ext : Option Bytes) (os : List AppOut) (s : S)
    (hc : s.closed = false) (hst : s.st = .connected) (hopen : s.conn = some .open) :
    feed token ext s (os.map (fun o => some o.msg)) = (s, os.map (fun o => Ev.data o.frame)) := by
  induction os with
  | nil => rfl
  | cons o r ih => simp [feed, send_fidelity token ext s o hc hst hopen, ih]

/-- honest boundary: after a close frame was sent or received wsproto refuses the message (`LocalProtocolError`,
    swallowed): the send returns normally and nothing reaches the client -/
theorem send_dropped_when_closing (token : Bytes → Bytes) (ext : Option Bytes) (s : S) (o : AppOut) (c : ConnSt)
    (hcl : s.closed = false) (hst : s.st = .connected) (hc : s.conn = some c) (hne : c ≠ .open) :
    appSend token ext s (some o.msg) = (s, [], none) := by
  cases o <;> simp [appSend, AppOut.msg, hcl, hst, sendWs, hc, connSend, hne]

/-! ### several writer tasks, one stream: frames are never interleaved (model `HC/Stream/WsWire.lean`) -/

/-- the source facts the granularity of `WsWire` rests on (extracted from the current tree, tools/extract_wssend.py):
    one wsproto event = one serialised frame = one `Data` event; the HTTP/2 carrier passes the whole of `event.data` to ONE
    `StreamBuffer.push`, which appends the whole of it to the buffer before its first suspension point, nothing loops;
    the HTTP/1.1 carrier passes the whole of it on as ONE `RawData`, which both workers write in ONE call under the send lock;
    `Event.set()` / `Event.clear()` (called on the way) do not suspend on either worker -/
theorem frame_hand_over_assumed :
    WsSend.wsEventData = ["self.connection.send(event)"] ∧
    WsSend.h2DataPushArgs = ["event.data"] ∧ WsSend.h2DataLoops = false ∧
    WsSend.pushExtendArgs = ["data"] ∧ WsSend.pushAwaitsBeforeExtend = [] ∧ WsSend.pushLoops = false ∧
    WsSend.h11DataSendArgs = ["event.data"] ∧ WsSend.h11DataLoops = false ∧
    WsSend.asyncioWriteArgs = ["event.data"] ∧ WsSend.asyncioWriteLocked = true ∧ WsSend.asyncioWriteLoops = false ∧
    WsSend.trioWriteArgs = ["event.data"] ∧ WsSend.trioWriteLocked = true ∧ WsSend.trioWriteLoops = false ∧
    Atomic.asyncioEventSetSuspends = false ∧ Atomic.asyncioEventClearSuspends = false ∧
    Atomic.trioEventSetSuspends = false ∧ Atomic.trioEventClearSuspends = false := by decide +kernel

/-- **for every number of writer tasks, every list of frames per task and every schedule** of hand-overs and of takes by the
    send task: what has been sent plus what is buffered is the concatenation of whole frames in hand-over order, and each
    task's frames are handed over in that task's order, none lost, none twice -/
theorem send_frames_never_interleaved {σ φ : Type} (F : WsWire.Framing σ φ) (init : Nat → List φ) (ops : List WsWire.Op) :
    let s := WsWire.run F (WsWire.start init) ops
    s.wire ++ s.buf = WsWire.wireOf F (s.log.map (·.2)) ∧ ∀ w, WsWire.sentBy w s.log ++ s.todo w = init w :=
  ⟨(WsWire.inv_run F init ops).stream, (WsWire.inv_run F init ops).order⟩

/-- the client's parser is never left with a damaged frame: a drained stream parses into the frames handed over -/
theorem send_stream_parses {σ φ : Type} (F : WsWire.Framing σ φ) (init : Nat → List φ) (ops : List WsWire.Op)
    (hdrained : (WsWire.run F (WsWire.start init) ops).buf = []) :
    WsWire.Decodes F (WsWire.run F (WsWire.start init) ops).wire ((WsWire.run F (WsWire.start init) ops).log.map (·.2)) :=
  WsWire.client_can_parse F init ops hdrained

/-- **messages the application sends reach the client with identical type and payload, in order - whatever the other
    writers of the stream do meanwhile** (and every pong the reader task sends reaches it, in order): with every task sending
    frames of its own class (`cls`, the opcode: 0 = messages, 1 = pong / close replies, 2 = pings), after any schedule that
    hands everything over and drains the buffer, whatever the client parses contains for each class exactly that task's
    frames, in its order -/
theorem send_fidelity_concurrent {σ φ : Type} (F : WsWire.Framing σ φ) (cls : φ → Nat) (init : Nat → List φ) (ops : List WsWire.Op)
    (hcls : ∀ w, ∀ f ∈ init w, cls f = w)
    (hall : ∀ w, (WsWire.run F (WsWire.start init) ops).todo w = []) (hdrained : (WsWire.run F (WsWire.start init) ops).buf = [])
    (got : List φ) (hgot : WsWire.Decodes F (WsWire.run F (WsWire.start init) ops).wire got) :
    ∀ w, got.filter (fun f => cls f == w) = init w :=
  WsWire.client_sees_each_writer_in_order F cls init ops hcls hall hdrained got hgot

/-- why the granularity matters (negation witness): were a frame handed over in pieces with a suspension point in between
    (`WsWire.Sliced`), a schedule exists after which the stream is no concatenation of the whole frames in either order,
    and the client parses a "message" that contains the other task's frame -/
theorem sliced_hand_over_interleaves :
    let init : Nat → List (List Nat) := fun w => if w = 0 then [[7, 7, 7, 7]] else if w = 1 then [[9]] else []
    let s := WsWire.Sliced.run WsWire.lp { todo := init, part := fun _ => [], buf := [], wire := [] }
               [.handOverPiece 0 2, .handOverPiece 1 5, .handOverPiece 0 5, .take 100]
    s.wire = [4, 7, 1, 9, 7, 7, 7] ∧ s.buf = [] ∧ (∀ w, s.todo w = [] ∧ s.part w = []) ∧
    s.wire ≠ WsWire.wireOf WsWire.lp [[7, 7, 7, 7], [9]] ∧ s.wire ≠ WsWire.wireOf WsWire.lp [[9], [7, 7, 7, 7]] ∧
    WsWire.lp.dec s.wire = some ([7, 1, 9, 7], [7, 7]) := by
  refine ⟨by decide +kernel, by decide +kernel, ?_, by decide +kernel, by decide +kernel, by decide +kernel⟩
  intro w
  by_cases h0 : w = 0
  · subst h0; decide +kernel
  · by_cases h1 : w = 1
    · subst h1; decide +kernel
    · simp [WsWire.Sliced.run, WsWire.Sliced.step, WsWire.lp, h0, h1]

/-! ### non-vacuity -/

private def s5 : S := { st := .connected, hs := { version := "1.1", accepted := true }, conn := some .open, buffer := { maxLength := 5 } }

example : Fresh s5 := by decide +kernel

/-- "hé" + ping + "llo" (5 characters, 6 bytes: within a limit of 5 because characters count), then 5 bytes -/
example :
    handleEvents s5 (sessionEvs [.text [([], ['h', 'é'])] [.ping "p1".b] ['l', 'l', 'o'], .bytes [] [] [1, 2, 3, 4, 5]] [.ping "p2".b]) =
      (s5, [.receive (.text ['h', 'é', 'l', 'l', 'o']), .receive (.bytes [1, 2, 3, 4, 5])],
       [.data (.pong "p1".b), .data (.pong "p2".b)], none) := by decide +kernel

example : (handleEvents s5 ([.message (.bytes [1, 2, 3]) false, .message (.bytes [4, 5, 6]) true, .message (.bytes [7]) true])).2 =
    ([], [.data (.close 1009)], none) := by decide +kernel

/-- two writers (the application: two messages; the reader task: one pong), the pong handed over between the two messages
    whilst the send task has taken half of the first: whole frames, in order -/
example :
    let init : Nat → List (List Nat) := fun w => if w = 0 then [[7, 7, 7, 7], [8]] else if w = 1 then [[9]] else []
    let s := WsWire.run WsWire.lp (WsWire.start init) [.handOver 0, .take 2, .handOver 1, .take 3, .handOver 0, .take 100]
    s.wire = [4, 7, 7, 7, 7, 1, 9, 1, 8] ∧ s.log = [(0, [7, 7, 7, 7]), (1, [9]), (0, [8])] := by decide +kernel

end HC.Props.C10
