import HC.Pure.Wsgi
/-!
# C17 — WSGI adapter conforms to PEP 3333

The theorems about the model `HC/Pure/Wsgi.lean`, and the notions their statements need (`valuesFor`, `joinComma`, `requestBody`,
`terminated`, `yieldsOf`, `bodies`).  Theorems about `run_app` are stated per `Variant`:
`checkAfterCall` is the shape of the pinned tree (F19), `checkAtFirstChunk` the repaired shape; the harness reads the
shape off the current source and reports which set applies.
-/
namespace HC.Props.C17
open HC HC.Wsgi

/-! ### spellings, comparator -/

/-- every key constant of the model is the string the code writes -/
theorem key_spellings :
    kRequestMethod = "REQUEST_METHOD".toList ∧ kScriptName = "SCRIPT_NAME".toList ∧ kPathInfo = "PATH_INFO".toList ∧
    kQueryString = "QUERY_STRING".toList ∧ kServerName = "SERVER_NAME".toList ∧ kServerPort = "SERVER_PORT".toList ∧
    kServerProtocol = "SERVER_PROTOCOL".toList ∧ kWsgiVersion = "wsgi.version".toList ∧ kUrlScheme = "wsgi.url_scheme".toList ∧
    kInput = "wsgi.input".toList ∧ kErrors = "wsgi.errors".toList ∧ kMultithread = "wsgi.multithread".toList ∧
    kMultiprocess = "wsgi.multiprocess".toList ∧ kRunOnce = "wsgi.run_once".toList ∧ kRemoteAddr = "REMOTE_ADDR".toList ∧
    kContentLength = "CONTENT_LENGTH".toList ∧ kContentType = "CONTENT_TYPE".toList ∧ httpPrefix = "HTTP_".toList ∧
    bContentLength = "content-length".b ∧ bContentType = "content-type".b := by decide +kernel

/-- the extracted comparator is `>` (re-checked against the source on every run) -/
theorem body_cmp (a b : Nat) : Extracted.Guards.wsgiBodyCmp.eval a b = decide (a > b) := by
  simp [Extracted.Guards.wsgiBodyCmp, Extracted.Guards.Cmp.eval]

/-! ### transcoding -/

private theorem utf8_append (a b : Str) : utf8 (a ++ b) = utf8 a ++ utf8 b := by simp [utf8]
private theorem latin1_append (a b : Bytes) : latin1 (a ++ b) = latin1 a ++ latin1 b := by simp [latin1]

private theorem utf8Char_ne_nil (c : Char) : utf8Char c ≠ [] := by
  unfold utf8Char; simp only []; repeat' split
  all_goals simp

private theorem utf8_eq_nil (s : Str) : utf8 s = [] ↔ s = [] := by
  cases s with
  | nil => simp [utf8]
  | cons c cs => simp [utf8, utf8Char_ne_nil]

/-- a code point below 256 is the latin-1 reading of its own byte -/
private theorem ofNat_toUInt8 (c : Char) (h : c.toNat < 256) : Char.ofNat c.toNat.toUInt8.toNat = c := by
  simp [Nat.mod_eq_of_lt h]

private theorem encodeChar_ofNat (x : UInt8) : encodeChar (Char.ofNat x.toNat) = some x := by
  have hx : x.toNat < 256 := x.toNat_lt
  have hc : (Char.ofNat x.toNat).toNat = x.toNat := by
    have : x.toNat.isValidChar := .inl (by omega)
    simp [Char.ofNat, this, Char.toNat, Char.ofNatAux]
  simp [encodeChar, hc, hx]

/-- ASCII passes through `encode("utf8").decode("latin1")` unchanged (so `%xx` escapes survive verbatim) -/
theorem transcode_ascii (s : Str) (h : ∀ c ∈ s, c.toNat < 128) : latin1 (utf8 s) = s := by
  induction s with
  | nil => rfl
  | cons c cs ih =>
    have hc : c.toNat < 128 := h c (by simp)
    have hu : utf8Char c = [c.toNat.toUInt8] := by simp [utf8Char, hc]
    simp only [utf8, List.flatMap_cons, latin1, hu, List.map_cons, List.singleton_append, ofNat_toUInt8 c (by omega)]
    exact congrArg _ (ih (fun c' hc' => h c' (by simp [hc'])))

example : latin1 (utf8 ['/', 'é']) = ['/', Char.ofNat 0xC3, Char.ofNat 0xA9] := by decide
example : utf8 [Char.ofNat 0x4E2D] = [0xE4, 0xB8, 0xAD] ∧ utf8 [Char.ofNat 0x1F600] = [0xF0, 0x9F, 0x98, 0x80] := by decide

/-! ### the environ dictionary -/

private theorem getKey_setKey_same (k : Str) (v : Val) (e : Environ) : getKey k (setKey k v e) = some v := by
  induction e with
  | nil => simp [setKey, getKey]
  | cons kv e ih =>
    obtain ⟨k', v'⟩ := kv
    simp only [setKey]; split <;> simp_all [getKey]

private theorem getKey_setKey_other (k k' : Str) (v : Val) (e : Environ) (h : k' ≠ k) :
    getKey k' (setKey k v e) = getKey k' e := by
  induction e with
  | nil => simp [setKey, getKey, Ne.symm h]
  | cons kv e ih =>
    obtain ⟨k'', v'⟩ := kv
    simp only [setKey]; split
    · rename_i h2; subst h2; simp [getKey, Ne.symm h]
    · simp only [getKey]; split <;> simp_all

private theorem getKey_none_of_not_mem (e : Environ) (k : Str) (h : k ∉ e.map Prod.fst) : getKey k e = none := by
  induction e with
  | nil => rfl
  | cons kv e ih =>
    obtain ⟨k', v⟩ := kv
    simp only [List.map_cons, List.mem_cons, not_or] at h
    simp only [getKey, if_neg (Ne.symm h.1), ih h.2]

/-- a header variable is `CONTENT_LENGTH`, `CONTENT_TYPE`, or starts with `HTTP_` -/
theorem headerKey_cases (n : Bytes) :
    headerKey n = kContentLength ∨ headerKey n = kContentType ∨ httpPrefix <+: headerKey n := by
  unfold headerKey
  split
  · exact .inl rfl
  · split
    · exact .inr (.inl rfl)
    · exact .inr (.inr (List.prefix_append _ _))

private theorem base_not_header :
    ∀ k ∈ baseKeys, k ≠ kContentLength ∧ k ≠ kContentType ∧ httpPrefix.isPrefixOf k = false := by decide

/-- **no request header can overwrite a request-derived variable**: header variables and the base keys are disjoint -/
theorem headerKey_not_base (n : Bytes) : headerKey n ∉ baseKeys := by
  intro hm
  obtain ⟨h1, h2, h3⟩ := base_not_header _ hm
  rcases headerKey_cases n with h | h | h
  · exact h1 h
  · exact h2 h
  · have := List.isPrefixOf_iff_prefix.mpr h
    rw [h3] at this; exact Bool.noConfusion this

/-- **content-length / content-type are not prefixed**, every other name is `HTTP_` + upper-cased with `-` → `_` -/
theorem content_headers_not_prefixed :
    headerKey bContentLength = kContentLength ∧ headerKey bContentType = kContentType ∧
    ∀ n, n ≠ bContentLength → n ≠ bContentType →
      headerKey n = httpPrefix ++ (n.flatMap upperL1).map (fun c => if c = '-' then '_' else c) := by
  refine ⟨by decide, by decide, ?_⟩
  intro n h1 h2
  simp [headerKey, h1, h2]

/-- only the header spelled exactly `content-length` feeds `CONTENT_LENGTH` (likewise `CONTENT_TYPE`) -/
theorem content_key_iff (n : Bytes) :
    (headerKey n = kContentLength ↔ n = bContentLength) ∧ (headerKey n = kContentType ↔ n = bContentType) := by
  have hne : bContentLength ≠ bContentType := by decide
  have hk : kContentLength ≠ kContentType := by decide
  unfold headerKey
  by_cases h1 : n = bContentLength
  · subst h1; simp [hne, hk]
  · by_cases h2 : n = bContentType
    · subst h2; simp [Ne.symm hne, Ne.symm hk]
    · simp [h1, h2, httpPrefix, kContentLength, kContentType]

example : headerKey "x-forwarded-for".b = "HTTP_X_FORWARDED_FOR".toList := by decide +kernel
example : headerKey "Content-Length".b = "HTTP_CONTENT_LENGTH".toList := by decide +kernel

/-! ### the codecs of `_build_environ` (read off the source on every run: `HC/Extracted/WsgiSites.lean`) -/

/-- **a header value is decoded as latin-1, strictly, with no second attempt in another codec** - decided on the `.decode()`
    call the extractor read in the header loop of `_build_environ`; every statement about header variables below rests on it -/
theorem header_value_latin1 (b : Bytes) : headerValue b = some (latin1 b) := by
  simp [headerValue, decodeWith, codecDecode, Extracted.WsgiSites.environHeaderValueDecode]

/-- the other transcodings the model has built in: header names are latin-1 (`headerKey` upper-cases byte by byte with
    `upperL1`), the query string is ASCII (`asciiDecode`), the path and the root path are UTF-8 bytes re-read as latin-1
    (`latin1 (utf8 …)`) -/
theorem environ_codecs :
    Extracted.WsgiSites.environHeaderNameDecode = { codec := .latin1, errors := none, fallback := none } ∧
    Extracted.WsgiSites.environQueryDecode = { codec := .ascii, errors := none, fallback := none } ∧
    Extracted.WsgiSites.environPathTranscode = { encode := .utf8, decode := .latin1 } ∧
    Extracted.WsgiSites.environScriptNameTranscode = { encode := .utf8, decode := .latin1 } := by decide

private theorem latin1_roundtrip (b : Bytes) : (latin1 b).mapM encodeChar = some b := by
  induction b with
  | nil => rfl
  | cons x xs ih =>
    have ih' : List.mapM encodeChar (xs.map fun x => Char.ofNat x.toNat) = some xs := ih
    simp [latin1, List.mapM_cons, encodeChar_ofNat, ih']

/-- **PEP 3333 round trip**: the native string handed to the application for a header value gives the request's bytes back
    under `value.encode("latin1")` - for EVERY byte string, in particular one that happens to be valid multi-byte UTF-8 -/
theorem header_value_roundtrip (b : Bytes) : (headerValue b).bind (fun v => v.mapM encodeChar) = some b := by
  rw [header_value_latin1]
  exact latin1_roundtrip b

/-- why the codec matters: decoding as UTF-8 first (latin-1 only as the fall-back) hands the application `é` for the bytes
    `C3 A9` - which `encode("latin1")` turns into the single byte `E9` - and `中` for `E4 B8 AD`, which `encode("latin1")`
    rejects (UnicodeEncodeError); a byte string that is not UTF-8 still round-trips, so only valid multi-byte UTF-8 shows it -/
theorem utf8_first_breaks_roundtrip :
    let d : Extracted.WsgiSites.Decode := { codec := .utf8, errors := none, fallback := some .latin1 }
    (decodeWith d [0xC3, 0xA9]).bind (fun v => v.mapM encodeChar) = some [0xE9] ∧
    (decodeWith d [0xE4, 0xB8, 0xAD]).bind (fun v => v.mapM encodeChar) = none ∧
    (decodeWith d [0xF0, 0x9F, 0x98, 0x80]).bind (fun v => v.mapM encodeChar) = none ∧
    (decodeWith d [0x76, 0xE9]).bind (fun v => v.mapM encodeChar) = some [0x76, 0xE9] ∧
    (decodeWith d [0xC3, 0xA9, 0xFF]).bind (fun v => v.mapM encodeChar) = some [0xC3, 0xA9, 0xFF] := by decide

/-- values of the header lines whose variable is `k`, in arrival order -/
def valuesFor (k : Str) (hs : Headers) : List Str :=
  (hs.filter (fun h => headerKey h.1 = k)).map (fun h => latin1 h.2)

/-- `",".join(vs)` -/
def joinComma : List Str → Str
  | [] => []
  | [v] => v
  | v :: w :: vs => v ++ ',' :: joinComma (w :: vs)

/-- what the header loop leaves under a key that held `old`, after lines with values `vs` for that key -/
def folded (old : Option Val) : List Str → Option Val
  | [] => old
  | v :: vs => some (.str (joinComma ((match old with | some (.str s) => [s] | _ => []) ++ v :: vs)))

private theorem joinComma_snoc_cons (a : List Str) (x : Str) (vs : List Str) (ha : a.length ≤ 1) :
    joinComma (joinComma (a ++ [x]) :: vs) = joinComma (a ++ x :: vs) := by
  match a, ha with
  | [], _ => simp [joinComma]
  | [s], _ =>
    cases vs with
    | nil => simp [joinComma]
    | cons y ys => simp [joinComma, List.append_assoc]

/-- every entry stored under a header variable is a `str` (so `+ "," +` cannot raise) -/
private def StrInv (e : Environ) : Prop := ∀ n v, getKey (headerKey n) e = some v → ∃ s, v = .str s

private theorem addHeaders_spec (hs : Headers) : ∀ (e : Environ), StrInv e →
    ∃ e', addHeaders e hs = .ok e' ∧ ∀ k, getKey k e' = folded (getKey k e) (valuesFor k hs) := by
  induction hs with
  | nil => intro e _; exact ⟨e, rfl, fun k => by simp [valuesFor, folded]⟩
  | cons h hs ih =>
    intro e hI
    -- one turn of the loop
    have step : ∃ new, addHeader e h = .ok (setKey (headerKey h.1) (.str new) e) ∧
        new = joinComma ((match getKey (headerKey h.1) e with | some (.str s) => [s] | _ => []) ++ [latin1 h.2]) := by
      unfold addHeader
      rw [header_value_latin1]
      cases hg : getKey (headerKey h.1) e with
      | none => exact ⟨_, rfl, by simp [joinComma]⟩
      | some v =>
        obtain ⟨s, rfl⟩ := hI h.1 v hg
        exact ⟨_, rfl, by simp [joinComma]⟩
    obtain ⟨new, hadd, hnew⟩ := step
    have hI' : StrInv (setKey (headerKey h.1) (.str new) e) := by
      intro n v hv
      by_cases hk : headerKey n = headerKey h.1
      · rw [hk, getKey_setKey_same] at hv; exact ⟨new, by simpa using hv.symm⟩
      · rw [getKey_setKey_other _ _ _ _ hk] at hv; exact hI n v hv
    obtain ⟨e', hrun, hspec⟩ := ih _ hI'
    refine ⟨e', by simp only [addHeaders, hadd, hrun], ?_⟩
    intro k
    rw [hspec k]
    by_cases hk : headerKey h.1 = k
    · subst hk
      have hv : valuesFor (headerKey h.1) (h :: hs) = latin1 h.2 :: valuesFor (headerKey h.1) hs := by
        simp [valuesFor]
      rw [hv, getKey_setKey_same]
      have hlen : (match getKey (headerKey h.1) e with | some (.str s) => [s] | _ => []).length ≤ 1 := by
        split <;> simp
      cases hvs : valuesFor (headerKey h.1) hs with
      | nil => simp [folded, hnew]
      | cons y ys =>
        simp only [folded, List.singleton_append]
        rw [hnew, joinComma_snoc_cons _ _ _ hlen]
    · have hv : valuesFor k (h :: hs) = valuesFor k hs := by simp [valuesFor, hk]
      rw [hv, getKey_setKey_other _ _ _ _ (Ne.symm hk)]

private theorem base_keys (sc : Scope) (q : Str) (body : Bytes) :
    ∀ k ∈ (baseEnviron sc q body).map Prod.fst, k ∈ baseKeys := by
  cases h : sc.client <;> simp only [baseEnviron, h, List.map_cons, List.map_append, List.map_nil] <;> decide

private theorem base_strInv (sc : Scope) (q : Str) (body : Bytes) : StrInv (baseEnviron sc q body) := by
  intro n v hv
  rw [getKey_none_of_not_mem _ _ (fun hm => headerKey_not_base n (base_keys sc q body _ hm))] at hv
  exact absurd hv (by simp)

/-- the three ways through `_build_environ`: path outside the root path, non-ASCII query bytes, or success - then every key
    holds the base value folded with the header lines of that key (the `+ "," +` TypeError cannot occur) -/
private theorem buildEnviron_cases (sc : Scope) (body : Bytes) :
    (¬ (sc.rootPath.getD []) <+: sc.path ∧ buildEnviron sc body = .error .invalidPath) ∨
    ((sc.rootPath.getD []) <+: sc.path ∧ asciiDecode sc.query = none ∧ buildEnviron sc body = .error .unicodeDecodeError) ∨
    ((sc.rootPath.getD []) <+: sc.path ∧ ∃ q env, asciiDecode sc.query = some q ∧ buildEnviron sc body = .ok env ∧
      ∀ k, getKey k env = folded (getKey k (baseEnviron sc q body)) (valuesFor k sc.headers)) := by
  unfold buildEnviron
  by_cases hp : (sc.rootPath.getD []) <+: sc.path
  · rw [if_pos (List.isPrefixOf_iff_prefix.mpr hp)]
    cases hq : asciiDecode sc.query with
    | none => exact .inr (.inl ⟨hp, rfl, rfl⟩)
    | some q =>
      obtain ⟨e', hrun, hspec⟩ := addHeaders_spec sc.headers _ (base_strInv sc q body)
      exact .inr (.inr ⟨hp, q, e', rfl, hrun, hspec⟩)
  · rw [if_neg (fun h => hp (List.isPrefixOf_iff_prefix.mp h))]
    exact .inl ⟨hp, rfl⟩

theorem buildEnviron_ok (sc : Scope) (body : Bytes) (env : Environ) (h : buildEnviron sc body = .ok env) :
    (sc.rootPath.getD []) <+: sc.path ∧ ∃ q, asciiDecode sc.query = some q ∧
      ∀ k, getKey k env = folded (getKey k (baseEnviron sc q body)) (valuesFor k sc.headers) := by
  rcases buildEnviron_cases sc body with ⟨_, he⟩ | ⟨_, _, he⟩ | ⟨hp, q, env', hq, he, hs⟩ <;> rw [he] at h <;> cases h
  exact ⟨hp, q, hq, hs⟩

/-- the error cases are exactly: path outside the root path (→ 404), non-ASCII query bytes (UnicodeDecodeError) -/
theorem buildEnviron_total (sc : Scope) (body : Bytes) :
    (∃ env, buildEnviron sc body = .ok env) ∨ buildEnviron sc body = .error .invalidPath ∨
    buildEnviron sc body = .error .unicodeDecodeError := by
  rcases buildEnviron_cases sc body with ⟨_, he⟩ | ⟨_, _, he⟩ | ⟨_, q, env, _, he, _⟩
  · exact .inr (.inl he)
  · exact .inr (.inr he)
  · exact .inl ⟨env, he⟩

theorem buildEnviron_ok_iff (sc : Scope) (body : Bytes) :
    (∃ env, buildEnviron sc body = .ok env) ↔ ((sc.rootPath.getD []) <+: sc.path ∧ (asciiDecode sc.query).isSome) := by
  rcases buildEnviron_cases sc body with ⟨hp, he⟩ | ⟨_, hq, he⟩ | ⟨hp, q, env, hq, he, _⟩
  · simp [he, hp]
  · simp [he, hq]
  · simp [he, hp, hq]

/-- a key no header line maps to keeps its request-derived value -/
private theorem base_value (sc : Scope) (body : Bytes) (env : Environ) (h : buildEnviron sc body = .ok env) :
    ∃ q, asciiDecode sc.query = some q ∧ ∀ k ∈ baseKeys, getKey k env = getKey k (baseEnviron sc q body) := by
  obtain ⟨_, q, hq, hspec⟩ := buildEnviron_ok sc body env h
  refine ⟨q, hq, fun k hk => ?_⟩
  have : valuesFor k sc.headers = [] := by
    simp only [valuesFor, List.map_eq_nil_iff, List.filter_eq_nil_iff]
    intro x _ hx
    have hx' : headerKey x.1 = k := by simpa using hx
    exact headerKey_not_base x.1 (hx' ▸ hk)
  rw [hspec k, this, folded]

/-- what `baseEnviron` holds under the keys `environ_spec` speaks of: looked up by evaluation (the keys are literals) -/
private theorem base_lookup (sc : Scope) (q : Str) (body : Bytes) :
    getKey kRequestMethod (baseEnviron sc q body) = some (.str sc.method) ∧
    getKey kScriptName (baseEnviron sc q body) = some (.str (latin1 (utf8 (sc.rootPath.getD [])))) ∧
    getKey kPathInfo (baseEnviron sc q body) = some (.str (latin1 (utf8 (pathInfoOf (sc.rootPath.getD []) sc.path)))) ∧
    getKey kQueryString (baseEnviron sc q body) = some (.str q) ∧
    getKey kServerProtocol (baseEnviron sc q body) = some (.str ("HTTP/".toList ++ sc.httpVersion)) ∧
    getKey kUrlScheme (baseEnviron sc q body) = some (.str (sc.scheme.getD "http".toList)) ∧
    getKey kServerName (baseEnviron sc q body) = some (.str (sc.server.getD ("localhost".toList, some 80)).1) ∧
    getKey kInput (baseEnviron sc q body) = some (.input body) ∧
    getKey kWsgiVersion (baseEnviron sc q body) = some (.version 1 0) ∧
    getKey kRemoteAddr (baseEnviron sc q body) = sc.client.map .str := by
  refine ⟨rfl, rfl, rfl, rfl, rfl, rfl, rfl, rfl, rfl, ?_⟩
  cases hc : sc.client <;> simp only [baseEnviron, hc] <;> rfl

/-- **the request line**: method, script name, path, query string, protocol, scheme, server and the body
    are functions of the request alone, whatever the headers say -/
theorem environ_spec (sc : Scope) (body : Bytes) (env : Environ) (h : buildEnviron sc body = .ok env) :
    getKey kRequestMethod env = some (.str sc.method) ∧
    getKey kScriptName env = some (.str (latin1 (utf8 (sc.rootPath.getD [])))) ∧
    getKey kPathInfo env = some (.str (latin1 (utf8 (pathInfoOf (sc.rootPath.getD []) sc.path)))) ∧
    (∃ q, asciiDecode sc.query = some q ∧ getKey kQueryString env = some (.str q)) ∧
    getKey kServerProtocol env = some (.str ("HTTP/".toList ++ sc.httpVersion)) ∧
    getKey kUrlScheme env = some (.str (sc.scheme.getD "http".toList)) ∧
    getKey kServerName env = some (.str (sc.server.getD ("localhost".toList, some 80)).1) ∧
    getKey kInput env = some (.input body) ∧
    getKey kWsgiVersion env = some (.version 1 0) ∧
    getKey kRemoteAddr env = sc.client.map .str := by
  obtain ⟨q, hq, hb⟩ := base_value sc body env h
  obtain ⟨b1, b2, b3, b4, b5, b6, b7, b8, b9, b10⟩ := base_lookup sc q body
  exact ⟨(hb _ (by decide)).trans b1, (hb _ (by decide)).trans b2, (hb _ (by decide)).trans b3,
    ⟨q, hq, (hb _ (by decide)).trans b4⟩, (hb _ (by decide)).trans b5, (hb _ (by decide)).trans b6,
    (hb _ (by decide)).trans b7, (hb _ (by decide)).trans b8, (hb _ (by decide)).trans b9, (hb _ (by decide)).trans b10⟩

/-- **wsgi.input holds exactly the request body** -/
theorem wsgi_input_is_body (sc : Scope) (body : Bytes) (env : Environ) (h : buildEnviron sc body = .ok env) :
    getKey kInput env = some (.input body) := (environ_spec sc body env h).2.2.2.2.2.2.2.1

/-- **PATH_INFO is never empty** -/
theorem path_info_nonempty (root path : Str) : latin1 (utf8 (pathInfoOf root path)) ≠ [] := by
  have h : pathInfoOf root path ≠ [] := by unfold pathInfoOf; simp only []; split <;> simp_all
  intro hc
  have : utf8 (pathInfoOf root path) = [] := by simpa [latin1] using hc
  exact h ((utf8_eq_nil _).mp this)

/-- **SCRIPT_NAME ++ PATH_INFO re-assembles the (transcoded) path**; when the path *is* the root path, PATH_INFO is "/" -/
theorem script_path_reassemble (sc : Scope) (body : Bytes) (env : Environ) (h : buildEnviron sc body = .ok env) :
    ∃ script info, getKey kScriptName env = some (.str script) ∧ getKey kPathInfo env = some (.str info) ∧ info ≠ [] ∧
      (script ++ info = latin1 (utf8 sc.path) ∨ (sc.path = sc.rootPath.getD [] ∧ info = ['/'])) := by
  obtain ⟨hp, _⟩ := buildEnviron_ok sc body env h
  obtain ⟨_, hs, hi, _⟩ := environ_spec sc body env h
  refine ⟨_, _, hs, hi, path_info_nonempty _ _, ?_⟩
  obtain ⟨t, ht⟩ := hp
  by_cases hte : t = []
  · right
    subst hte
    have : sc.path = sc.rootPath.getD [] := by simpa using ht.symm
    refine ⟨this, ?_⟩
    simp [pathInfoOf, this, latin1, utf8, utf8Char]
  · left
    have hd : pathInfoOf (sc.rootPath.getD []) sc.path = t := by
      simp [pathInfoOf, ← ht, hte]
    rw [hd, ← latin1_append, ← utf8_append, ht]

/-- **repeated headers are comma-joined in arrival order** (and a variable exists only if some line maps to it) -/
theorem headers_comma_joined (sc : Scope) (body : Bytes) (env : Environ) (h : buildEnviron sc body = .ok env) (n : Bytes) :
    getKey (headerKey n) env =
      (match valuesFor (headerKey n) sc.headers with
       | [] => none
       | vs => some (.str (joinComma vs))) := by
  obtain ⟨_, q, _, hspec⟩ := buildEnviron_ok sc body env h
  rw [hspec (headerKey n),
    getKey_none_of_not_mem _ _ (fun hm => headerKey_not_base n (base_keys sc q body _ hm))]
  cases valuesFor (headerKey n) sc.headers <;> simp [folded]

private def exScope : Scope :=
  { method := "POST".toList, path := "/app/café/x%20y".toList, rootPath := some "/app".toList, query := "a=%C3%A9&b".b,
    httpVersion := "1.1".toList, scheme := some "https".toList, server := some ("h".toList, some 8080), client := some "c".toList,
    headers := [("x-a".b, "1".b), ("content-type".b, "t/p".b), ("x-a".b, "2".b), ("content-length".b, "4".b), ("x_a".b, "3".b)] }

example : (buildEnviron exScope "body".b).toOption.map (fun e =>
      (getKey kScriptName e, getKey kPathInfo e, getKey "HTTP_X_A".toList e, getKey kContentLength e, getKey kInput e)) =
    some (some (.str "/app".toList), some (.str (latin1 ("/caf".b ++ [0xC3, 0xA9] ++ "/x%20y".b))),
          some (.str "1,2,3".toList), some (.str "4".toList), some (.input "body".b)) := by decide +kernel
example : buildEnviron { exScope with path := "/other".toList } [] = .error .invalidPath := by decide +kernel
example : valuesFor "HTTP_X_A".toList exScope.headers = ["1".toList, "2".toList, "3".toList] := by decide +kernel

/-! ### the body limit -/

/-- the request body: chunks up to and including the first message without `more_body` -/
def requestBody : List ReqMsg → Bytes
  | [] => []
  | m :: ms => if m.more then m.body ++ requestBody ms else m.body

/-- some message ends the body -/
def terminated : List ReqMsg → Bool
  | [] => false
  | m :: ms => !m.more || terminated ms

private theorem collectFrom_spec (max : Nat) : ∀ (msgs : List ReqMsg) (acc : Bytes), terminated msgs = true →
    collectFrom max acc msgs =
      if (acc ++ requestBody msgs).length > max then .tooLarge else .complete (acc ++ requestBody msgs) := by
  intro msgs
  induction msgs with
  | nil => intro acc h; simp [terminated] at h
  | cons m ms ih =>
    intro acc ht
    simp only [collectFrom, body_cmp, decide_eq_true_eq, requestBody]
    by_cases hm : m.more = true
    · have ht' : terminated ms = true := by simpa [terminated, hm] using ht
      simp only [hm, if_true]
      by_cases hbig : (acc ++ m.body).length > max
      · have : (acc ++ (m.body ++ requestBody ms)).length > max := by
          simp only [List.length_append] at hbig ⊢; omega
        rw [if_pos hbig, if_pos this]
      · rw [if_neg hbig, ih _ ht', List.append_assoc]
    · have hm' : m.more = false := by simpa using hm
      simp only [hm', Bool.false_eq_true, if_false]

/-- every chunking of a terminated body: too large iff the body exceeds the limit, otherwise the exact body -/
theorem collect_spec (max : Nat) (msgs : List ReqMsg) (ht : terminated msgs = true) :
    collectBody max msgs = if (requestBody msgs).length > max then .tooLarge else .complete (requestBody msgs) := by
  simpa [collectBody] using collectFrom_spec max msgs [] ht

/-- the outcome depends on the body, not on how it was cut into messages -/
theorem chunking_irrelevant (max : Nat) (m1 m2 : List ReqMsg) (h1 : terminated m1 = true) (h2 : terminated m2 = true)
    (hb : requestBody m1 = requestBody m2) : collectBody max m1 = collectBody max m2 := by
  rw [collect_spec max m1 h1, collect_spec max m2 h2, hb]

/-- the application is never started on a partial body -/
theorem unterminated_never_complete (max : Nat) : ∀ (msgs : List ReqMsg) (acc : Bytes), terminated msgs = false →
    ∀ b, collectFrom max acc msgs ≠ .complete b := by
  intro msgs
  induction msgs with
  | nil => intro acc _ b; simp [collectFrom]
  | cons m ms ih =>
    intro acc ht b
    simp only [terminated, Bool.or_eq_false_iff, Bool.not_eq_false'] at ht
    simp only [collectFrom, ht.1, if_true]
    split
    · simp
    · exact ih _ ht.2 b

/-- for every limit and every chunking, a body larger than the limit is answered
    400 + empty final body and nothing else happens (no spawn, no application call) -/
theorem limit_400_no_call (v : Variant) (max : Nat) (sc : Scope) (msgs : List ReqMsg) (app : App)
    (ht : terminated msgs = true) (hbig : (requestBody msgs).length > max) :
    handleHttp v max sc msgs app = { sent := [.start 400 [], finalBody] } := by
  simp [handleHttp, collect_spec max msgs ht, hbig]

/-- `run_app` either stops before it iterates (nothing sent, nothing closed; with an iterable in hand only when `iter()` let an
    exception escape or, in the pinned shape, `start_response` had not been called), or it iterates: in the pinned shape behind
    the start message, in the repaired shape with the start message left to the loop -/
private theorem runApp_cases (v : Variant) (app : App) :
    (∃ e io, runApp v app = ⟨[], 1, 0, io, some e, 0⟩ ∧
      (io = true → iterEscapes app = true ∨ (v = .checkAfterCall ∧ callPhase none app.call = .ok none))) ∨
    (∃ st hs, v = .checkAfterCall ∧
      runApp v app = ⟨.start st hs :: (iterate (some (st, hs)) true app.acts).1, 1, (closeCounts app).1, true,
        (iterate (some (st, hs)) true app.acts).2, (closeCounts app).2⟩) ∨
    (∃ r, v = .checkAtFirstChunk ∧
      runApp v app = ⟨(iterate r false app.acts).1, 1, (closeCounts app).1, true, (iterate r false app.acts).2,
        (closeCounts app).2⟩) := by
  cases hr : callPhase none app.call with
  | error e => exact .inl ⟨e, false, by simp [runApp, hr], fun h => by cases h⟩
  | ok r =>
    cases hcr : app.callRaises with
    | true => exact .inl ⟨.appError, false, by simp [runApp, hr, hcr], fun h => by cases h⟩
    | false =>
      cases hesc : iterEscapes app with
      | true => exact .inl ⟨.appError, true, by simp [runApp, hr, hcr, hesc], fun _ => .inl rfl⟩
      | false =>
        cases v with
        | checkAfterCall =>
          cases r with
          | none => exact .inl ⟨.runtimeError, true, by simp [runApp, hr, hcr, hesc], fun _ => .inr ⟨rfl, rfl⟩⟩
          | some p => exact .inr (.inl ⟨p.1, p.2, rfl, by simp [runApp, hr, hcr, hesc]⟩)
        | checkAtFirstChunk => exact .inr (.inr ⟨r, rfl, by simp [runApp, hr, hcr, hesc]⟩)

/-- the bookkeeping of every run: one call of the application; `close()` calls are those of the `finally` block, and there are
    none unless the iteration was entered -/
private theorem runApp_counts (v : Variant) (app : App) :
    (runApp v app).appCalls = 1 ∧
    (((runApp v app).closeCalls = 0 ∧ (runApp v app).iterCloseCalls = 0) ∨
      ((runApp v app).iterObtained = true ∧ (runApp v app).closeCalls = (closeCounts app).1 ∧
        (runApp v app).iterCloseCalls = (closeCounts app).2)) := by
  rcases runApp_cases v app with ⟨e, io, h, _⟩ | ⟨st, hs, _, h⟩ | ⟨r, _, h⟩ <;> rw [h]
  · exact ⟨rfl, .inl ⟨rfl, rfl⟩⟩
  · exact ⟨rfl, .inr ⟨rfl, rfl, rfl⟩⟩
  · exact ⟨rfl, .inr ⟨rfl, rfl, rfl⟩⟩

theorem runApp_calls_once (v : Variant) (app : App) : (runApp v app).appCalls = 1 := (runApp_counts v app).1

/-- for every limit and every chunking, a body of at most the limit (exactly at it included)
    reaches the application, once, in one spawned thread, with `wsgi.input` = the whole body -/
theorem at_limit_called (v : Variant) (max : Nat) (sc : Scope) (msgs : List ReqMsg) (app : App)
    (ht : terminated msgs = true) (hle : (requestBody msgs).length ≤ max)
    (hp : (sc.rootPath.getD []) <+: sc.path) (hq : (asciiDecode sc.query).isSome) :
    ∃ env, (handleHttp v max sc msgs app).environ = some env ∧ getKey kInput env = some (.input (requestBody msgs)) ∧
      (handleHttp v max sc msgs app).appCalls = 1 ∧ (handleHttp v max sc msgs app).spawns = 1 := by
  obtain ⟨env, henv⟩ := (buildEnviron_ok_iff sc (requestBody msgs)).mpr ⟨hp, hq⟩
  have hc : collectBody max msgs = .complete (requestBody msgs) := by
    rw [collect_spec max msgs ht, if_neg (by omega)]
  refine ⟨env, ?_, wsgi_input_is_body sc _ env henv, ?_, ?_⟩ <;>
    simp [handleHttp, hc, henv, runApp_calls_once]

example : collectBody 4 [⟨"ab".b, true⟩, ⟨[], true⟩, ⟨"cd".b, false⟩] = .complete "abcd".b := by decide +kernel
example : collectBody 4 [⟨"ab".b, true⟩, ⟨"cde".b, true⟩, ⟨[], false⟩] = .tooLarge := by decide +kernel
example : collectBody 0 [⟨[], false⟩] = .complete [] := by decide +kernel

/-! ### exactly one call, off the event loop -/

/-- the application runs only inside the function handed to `sync_spawn`, that happens at most
    once, and exactly when the body was accepted and the environ could be built -/
theorem called_once (v : Variant) (max : Nat) (sc : Scope) (msgs : List ReqMsg) (app : App) :
    let o := handleHttp v max sc msgs app
    o.appCalls = o.spawns ∧ o.spawns ≤ 1 ∧
    (o.appCalls = 1 ↔ ∃ body env, collectBody max msgs = .complete body ∧ buildEnviron sc body = .ok env) := by
  cases hc : collectBody max msgs with
  | tooLarge => simp [handleHttp, hc]
  | pending b => simp [handleHttp, hc]
  | complete body =>
    cases hb : buildEnviron sc body with
    | error e => cases e <;> simp [handleHttp, hc, hb]
    | ok env => simp [handleHttp, hc, hb, runApp_calls_once]

/-- rejected requests (too large, path outside the root path) never reach the application -/
theorem rejected_not_called (v : Variant) (max : Nat) (sc : Scope) (msgs : List ReqMsg) (app : App)
    (h : collectBody max msgs = .tooLarge ∨ ∃ body, collectBody max msgs = .complete body ∧ buildEnviron sc body = .error .invalidPath) :
    (handleHttp v max sc msgs app).appCalls = 0 ∧ (handleHttp v max sc msgs app).spawns = 0 := by
  rcases h with h | ⟨body, h1, h2⟩
  · simp [handleHttp, h]
  · simp [handleHttp, h1, h2]

/-- a path that does not start with the root path is answered 404 + empty final body -/
theorem bad_root_path_404 (v : Variant) (max : Nat) (sc : Scope) (msgs : List ReqMsg) (app : App) (body : Bytes)
    (hc : collectBody max msgs = .complete body) (hp : ¬ (sc.rootPath.getD []) <+: sc.path) :
    handleHttp v max sc msgs app = { sent := [.start 404 [], finalBody] } := by
  have : buildEnviron sc body = .error .invalidPath := by
    rcases buildEnviron_cases sc body with ⟨_, he⟩ | ⟨h, _⟩ | ⟨h, _⟩
    · exact he
    · exact absurd h hp
    · exact absurd h hp
  simp [handleHttp, hc, this]

/-- a websocket scope is answered with `websocket.close` and nothing else -/
theorem websocket_refused (v : Variant) (max : Nat) (sc : Scope) (msgs : List ReqMsg) (app : App) :
    wrapper v "websocket" max sc msgs app = { sent := [.wsClose] } := by
  simp [wrapper]

theorem lifespan_ignored (v : Variant) (max : Nat) (sc : Scope) (msgs : List ReqMsg) (app : App) :
    wrapper v "lifespan" max sc msgs app = {} := by
  simp [wrapper]

/-! ### what the application produced reaches the client -/

/-- the chunks an iteration yields, in order -/
def yieldsOf : List IterAct → List Bytes
  | [] => []
  | .yield c :: rest => c :: yieldsOf rest
  | _ :: rest => yieldsOf rest

def bodies (cs : List Bytes) : List Msg := cs.map (fun c => Msg.body c true)

/-- `start_response("<digits> <reason>", headers)` records the numeric status and the headers, names lower-cased -/
theorem start_response_records (raw reason : Str) (hs : List (Str × Str)) (n : Nat) (ehs : Headers)
    (hsp : ' ' ∉ raw) (hn : parseInt raw = some n) (hh : hs.mapM encodeHeader = some ehs) :
    startResponse ⟨raw ++ ' ' :: reason, hs⟩ = .ok (n, ehs) := by
  have : splitSpace (raw ++ ' ' :: reason) = some (raw, reason) := by
    clear hn
    induction raw with
    | nil => simp [splitSpace]
    | cons c cs ih =>
      simp only [List.mem_cons, not_or] at hsp
      simp [splitSpace, Ne.symm hsp.1, ih hsp.2]
  simp [startResponse, this, hn, hh]

/-- header values with code points below 256 are encoded byte for code point (the client sees them unchanged) -/
theorem header_value_unchanged (v : Str) (h : ∀ c ∈ v, c.toNat < 256) :
    ∃ bs, v.mapM encodeChar = some bs ∧ latin1 bs = v := by
  induction v with
  | nil => exact ⟨[], rfl, rfl⟩
  | cons c cs ih =>
    obtain ⟨bs, h1, h2⟩ := ih (fun c' hc' => h c' (by simp [hc']))
    have hc : c.toNat < 256 := h c (by simp)
    exact ⟨c.toNat.toUInt8 :: bs, by simp [List.mapM_cons, encodeChar, hc, h1],
      by rw [← h2, latin1, List.map_cons, ofNat_toUInt8 c hc]; simp [latin1]⟩

private theorem iterate_yields_sent (r : Recorded) (cs : List Bytes) :
    iterate r true (cs.map .yield) = (bodies cs, none) := by
  induction cs with
  | nil => simp [iterate, bodies]
  | cons c cs ih => simp [iterate, ih, bodies]

private theorem iterate_yields_unsent (st : Nat) (hs : Headers) (cs : List Bytes) :
    iterate (some (st, hs)) false (cs.map .yield) = (.start st hs :: bodies cs, none) := by
  cases cs with
  | nil => simp [iterate, bodies]
  | cons c cs => simp [iterate, iterate_yields_sent, bodies]

/-- both shapes of `run_app`: an application that called `start_response` before returning —
    the last call recorded `(st, hs)` — and whose iterable yields `chunks` makes the wrapper emit exactly
    start(st, hs), one body message per chunk in order (empty chunks included, all `more_body=True`), and then exactly
    one final empty `more_body=False` message; no exception -/
theorem output_fidelity (v : Variant) (max : Nat) (sc : Scope) (msgs : List ReqMsg) (body : Bytes) (env : Environ)
    (call : List StartArgs) (chunks : List Bytes) (hasClose selfIter iterHasClose : Bool) (st : Nat) (hs : Headers)
    (hc : collectBody max msgs = .complete body) (he : buildEnviron sc body = .ok env)
    (hstart : callPhase none call = .ok (some (st, hs))) :
    let o := handleHttp v max sc msgs ⟨call, false, chunks.map .yield, hasClose, selfIter, false, iterHasClose⟩
    o.sent = .start st hs :: bodies chunks ++ [finalBody] ∧ o.exc = none := by
  cases v <;>
    simp [handleHttp, hc, he, runApp, hstart, iterate_yields_sent, iterate_yields_unsent, iterEscapes, App.acts]

private theorem callPhase_append (r : Recorded) (as bs : List StartArgs) :
    callPhase r (as ++ bs) = (match callPhase r as with | .ok r' => callPhase r' bs | .error e => .error e) := by
  induction as generalizing r with
  | nil => simp [callPhase]
  | cons a as ih =>
    simp only [List.cons_append, callPhase]
    cases startResponse a with
    | ok s => simp [ih]
    | error e => simp

/-- repaired shape: moving the last `start_response` call from the call phase to the front of the
    iteration changes neither the messages nor the exception -/
theorem eager_lazy_same (cs : List StartArgs) (a : StartArgs) (rest : List IterAct) (hasClose selfIter iterHasClose : Bool) :
    (runApp .checkAtFirstChunk ⟨cs ++ [a], false, rest, hasClose, selfIter, false, iterHasClose⟩).msgs =
      (runApp .checkAtFirstChunk ⟨cs, false, .start a :: rest, hasClose, selfIter, false, iterHasClose⟩).msgs ∧
    (runApp .checkAtFirstChunk ⟨cs ++ [a], false, rest, hasClose, selfIter, false, iterHasClose⟩).exc =
      (runApp .checkAtFirstChunk ⟨cs, false, .start a :: rest, hasClose, selfIter, false, iterHasClose⟩).exc := by
  simp only [runApp, callPhase_append, iterEscapes, App.acts, Bool.false_and, Bool.false_eq_true, if_false]
  cases callPhase none cs with
  | error e => simp
  | ok r =>
    simp only [callPhase, iterate]
    cases startResponse a with
    | ok s => simp
    | error e => simp

/-- **lazy start_response** (repaired shape): a generator-style application that calls `start_response` only when first
    iterated gets the same messages as an eager one -/
theorem lazy_output_fidelity (max : Nat) (sc : Scope) (msgs : List ReqMsg) (body : Bytes) (env : Environ)
    (a : StartArgs) (chunks : List Bytes) (hasClose selfIter iterHasClose : Bool) (st : Nat) (hs : Headers)
    (hc : collectBody max msgs = .complete body) (he : buildEnviron sc body = .ok env)
    (hstart : startResponse a = .ok (st, hs)) :
    let o := handleHttp .checkAtFirstChunk max sc msgs
      ⟨[], false, .start a :: chunks.map .yield, hasClose, selfIter, false, iterHasClose⟩
    o.sent = .start st hs :: bodies chunks ++ [finalBody] ∧ o.exc = none ∧ o.appCalls = 1 := by
  simp [handleHttp, hc, he, runApp, callPhase, iterate, hstart, iterate_yields_unsent, iterEscapes, App.acts]

/- Full statement of the lazy clause for the code as pinned — FALSE there (F19):
     ∀ a chunks …, startResponse a = .ok (st, hs) →
       (handleHttp .checkAfterCall max sc msgs ⟨[], false, .start a :: chunks.map .yield, hasClose, selfIter, false, iterHasClose⟩).sent
         = .start st hs :: bodies chunks ++ [finalBody]
   The pinned `run_app` checks `response_started` as soon as the callable returns. -/

private def lazyApp : App :=
  { call := [], callRaises := false,
    iter := [.start ⟨"200 OK".toList, [("X-A".toList, "b".toList)]⟩, .yield "chunk1".b, .yield "chunk2".b], hasClose := true }

/-- negation witness for the pinned shape: a lazily starting application is rejected with RuntimeError, nothing is sent -/
theorem lazy_start_rejected_as_is :
    ¬ (∀ (a : StartArgs) (chunks : List Bytes) (st : Nat) (hs : Headers), startResponse a = .ok (st, hs) →
        (runApp .checkAfterCall ⟨[], false, .start a :: chunks.map .yield, true, true, false, false⟩).msgs =
          .start st hs :: bodies chunks) := by
  intro h
  have := h ⟨"200 OK".toList, []⟩ [] 200 [] (by decide +kernel)
  revert this
  decide +kernel

example : (runApp .checkAfterCall lazyApp).exc = some .runtimeError ∧ (runApp .checkAfterCall lazyApp).msgs = [] := by
  decide +kernel
example : (runApp .checkAtFirstChunk lazyApp).msgs =
    [.start 200 [("x-a".b, "b".b)], .body "chunk1".b true, .body "chunk2".b true] ∧
    (runApp .checkAtFirstChunk lazyApp).exc = none := by decide +kernel

/-- once the start message is out, the loop sends one body message per chunk, in order, until it ends or an action raises -/
private theorem iterate_sent : ∀ (acts : List IterAct) (r : Recorded),
    ∃ cs, cs <+: yieldsOf acts ∧ (iterate r true acts).1 = bodies cs ∧ ((iterate r true acts).2 = none → cs = yieldsOf acts)
  | [], _ => ⟨[], List.prefix_refl _, rfl, fun _ => rfl⟩
  | .raise :: _, _ => ⟨[], List.nil_prefix, rfl, fun h => by cases h⟩
  | .start a :: acts, r => by
    simp only [iterate, yieldsOf]
    cases startResponse a with
    | ok s => exact iterate_sent acts (some s)
    | error e => exact ⟨[], List.nil_prefix, rfl, fun h => by cases h⟩
  | .yield c :: acts, r => by
    obtain ⟨cs, hp, hb, hd⟩ := iterate_sent acts r
    exact ⟨c :: cs, by simpa [yieldsOf, List.cons_prefix_cons] using hp, by simp [iterate, hb, bodies],
      fun h => by rw [yieldsOf, hd (by simpa [iterate] using h)]⟩

/-- before the start message is out, the loop either fails with nothing sent or reaches a point where it sends the start message
    and goes on as the loop above, all chunks still to come -/
private theorem iterate_unsent : ∀ (acts : List IterAct) (r : Recorded),
    (∃ e, iterate r false acts = ([], some e)) ∨
    ∃ st hs r' rest, yieldsOf rest = yieldsOf acts ∧
      iterate r false acts = (.start st hs :: (iterate r' true rest).1, (iterate r' true rest).2)
  | [], none => .inl ⟨_, rfl⟩
  | [], some (st, hs) => .inr ⟨st, hs, none, [], rfl, rfl⟩
  | .raise :: _, _ => .inl ⟨_, rfl⟩
  | .start a :: acts, r => by
    simp only [iterate, yieldsOf]
    cases startResponse a with
    | ok s => exact iterate_unsent acts (some s)
    | error e => exact .inl ⟨e, rfl⟩
  | .yield _ :: _, none => .inl ⟨_, rfl⟩
  | .yield c :: acts, some (st, hs) => .inr ⟨st, hs, some (st, hs), .yield c :: acts, rfl, rfl⟩

private theorem acts_yields_prefix (app : App) : yieldsOf app.acts <+: yieldsOf app.iter := by
  unfold App.acts
  split
  · simp [yieldsOf]
  · exact List.prefix_refl _

private theorem acts_of_no_exc (app : App) (r : Recorded) (sent : Bool) (h : (iterate r sent app.acts).2 = none) :
    app.acts = app.iter := by
  unfold App.acts at h ⊢
  split
  · rename_i hi; simp [hi, iterate] at h
  · rfl

/-- what `run_app` emits, on every path: nothing (and then it raises), or one start message and body messages for a prefix of
    the chunks the iterable yields - all of them when it returns normally -/
private theorem runApp_emits (v : Variant) (app : App) :
    ∃ cs, cs <+: yieldsOf app.iter ∧
      (((runApp v app).msgs = [] ∧ (runApp v app).exc ≠ none) ∨
       ∃ st hs, (runApp v app).msgs = .start st hs :: bodies cs ∧ ((runApp v app).exc = none → cs = yieldsOf app.iter)) := by
  rcases runApp_cases v app with ⟨e, io, h, _⟩ | ⟨st, hs, _, h⟩ | ⟨r, _, h⟩ <;> rw [h]
  · exact ⟨[], List.nil_prefix, .inl ⟨rfl, by simp⟩⟩
  · obtain ⟨cs, hp, hb, hd⟩ := iterate_sent app.acts (some (st, hs))
    exact ⟨cs, hp.trans (acts_yields_prefix app), .inr ⟨st, hs, by rw [hb],
      fun hn => by rw [hd hn, acts_of_no_exc app _ _ hn]⟩⟩
  · rcases iterate_unsent app.acts r with ⟨e, he⟩ | ⟨st, hs, r', rest, hy, he⟩
    · exact ⟨[], List.nil_prefix, .inl (by simp [he])⟩
    · obtain ⟨cs, hp, hb, hd⟩ := iterate_sent rest r'
      refine ⟨cs, (hy ▸ hp).trans (acts_yields_prefix app), .inr ⟨st, hs, by simp [he, hb], fun hn => ?_⟩⟩
      have ha := acts_of_no_exc app r false hn
      rw [he] at hn
      rw [hd hn, hy, ha]

/-- **on every path (any application, both shapes)** the messages `run_app` emits are either nothing, or one start
    message followed by body messages carrying a prefix of the chunks the iterable yields, in order, all `more_body=True` -/
theorem emitted_is_prefix (v : Variant) (app : App) :
    ∃ cs, cs <+: yieldsOf app.iter ∧
      ((runApp v app).msgs = [] ∨ ∃ st hs, (runApp v app).msgs = .start st hs :: bodies cs) := by
  obtain ⟨cs, hp, h | ⟨st, hs, h, _⟩⟩ := runApp_emits v app
  · exact ⟨cs, hp, .inl h.1⟩
  · exact ⟨cs, hp, .inr ⟨st, hs, h⟩⟩

/-- **no exception ⇒ everything was delivered**: whenever `run_app` returns normally (any application, both shapes), it
    emitted one start message and then *all* chunks of the iterable in order -/
theorem no_exception_complete (v : Variant) (app : App) (h : (runApp v app).exc = none) :
    ∃ st hs, (runApp v app).msgs = .start st hs :: bodies (yieldsOf app.iter) := by
  obtain ⟨cs, _, hx | ⟨st, hs, hm, hd⟩⟩ := runApp_emits v app
  · exact absurd h hx.2
  · exact ⟨st, hs, by rw [hm, hd h]⟩

/-- the wrapper appends the final `more_body=False` message exactly when `run_app` returned normally: an error never
    looks like a complete response -/
theorem final_iff_no_exception (v : Variant) (max : Nat) (sc : Scope) (msgs : List ReqMsg) (app : App) (body : Bytes)
    (env : Environ) (hc : collectBody max msgs = .complete body) (he : buildEnviron sc body = .ok env) :
    let o := handleHttp v max sc msgs app
    (o.exc = none → o.sent = (runApp v app).msgs ++ [finalBody]) ∧
    (o.exc ≠ none → o.sent = (runApp v app).msgs ∧ finalBody ∉ o.sent) := by
  simp only [handleHttp, hc, he]
  cases hx : (runApp v app).exc with
  | none => simp
  | some e =>
    obtain ⟨cs, _, hs⟩ := emitted_is_prefix v app
    rcases hs with h | ⟨st, hds, h⟩ <;> simp [h, finalBody, bodies]

/-! ### every message reaches the protocol: `call_soon` is synchronous -/

open Extracted.WsgiSites in
/-- **`call_soon` waits for each send on both workers, in the built-in WSGI mode and through the WSGI middleware
    classes** — re-decided against the current source (the extractor reads `_call_soon` of asyncio/task_group.py, the
    `call_soon` argument of trio/task_group.py, and the pair `AsyncioWSGIMiddleware.__call__` / `TrioWSGIMiddleware.__call__`
    of middleware/wsgi.py hand to `WSGIWrapper`) -/
theorem call_soon_synchronous (w : Worker) : callSoonWaits w = true := by
  cases w <;> decide

private theorem acceptedFrom_waits (susp : Nat → Bool) : ∀ (msgs : List Msg) (i : Nat),
    acceptedFrom true susp i false msgs = msgs := by
  intro msgs
  induction msgs with
  | nil => intro i; simp [acceptedFrom]
  | cons m ms ih => intro i; cases m <;> simp [acceptedFrom, ih]

/-- **nothing the application produced is lost on the way to the protocol, however the transport paces the sends**: on
    either worker, for every pattern of suspending sends, the stream accepts exactly the messages `run_app` issued, in
    order -/
theorem accepted_all (w : Worker) (susp : Nat → Bool) (msgs : List Msg) : accepted w susp msgs = msgs := by
  simp [accepted, call_soon_synchronous, acceptedFrom_waits]

/-- output fidelity end to end (both workers, both shapes of `run_app`, any pacing) -/
theorem output_fidelity_delivered (w : Worker) (susp : Nat → Bool) (v : Variant) (max : Nat) (sc : Scope) (msgs : List ReqMsg)
    (body : Bytes) (env : Environ) (call : List StartArgs) (chunks : List Bytes) (hasClose selfIter iterHasClose : Bool)
    (st : Nat) (hs : Headers)
    (hc : collectBody max msgs = .complete body) (he : buildEnviron sc body = .ok env)
    (hstart : callPhase none call = .ok (some (st, hs))) :
    accepted w susp (handleHttp v max sc msgs ⟨call, false, chunks.map .yield, hasClose, selfIter, false, iterHasClose⟩).sent =
      .start st hs :: bodies chunks ++ [finalBody] := by
  rw [accepted_all]
  exact (output_fidelity v max sc msgs body env call chunks hasClose selfIter iterHasClose st hs hc he hstart).1

/-- why the hypothesis matters (a `call_soon` that does not wait): with the start message's send suspended, the body is
    dropped — the client would get the head and a truncated body -/
theorem fire_and_forget_loses_body :
    acceptedFrom false (fun _ => true) 0 false [.start 200 [], .body "a".b true, finalBody] = [.start 200 []] := by
  decide +kernel

/-! ### close() -/

open Extracted.WsgiSites in
/-- **`close` is looked up on the object the application returned** — re-decided against the current source: the
    extractor reads off `WSGIWrapper.run_app` what the iterated-and-closed name is bound to.  (`iter()` of the returned
    object, taken before the `try`, would close the *iterator* instead and let an exception of `__iter__` escape.) -/
theorem body_binding_returned : wsgiBodyBinding = .returned := by decide

private theorem closeCounts_returned (app : App) : closeCounts app = (if app.hasClose then 1 else 0, 0) := by
  simp [closeCounts, body_binding_returned]

private theorem iterEscapes_false (app : App) : iterEscapes app = false := by
  simp [iterEscapes, body_binding_returned]

private theorem closeCounts_le (app : App) : (closeCounts app).1 + (closeCounts app).2 ≤ 1 := by
  unfold closeCounts
  repeat' split
  all_goals simp

/-- at most one `close()` call is ever made, whatever it is made on -/
theorem close_at_most_once (v : Variant) (app : App) : (runApp v app).closeCalls + (runApp v app).iterCloseCalls ≤ 1 := by
  have := closeCounts_le app
  rcases (runApp_counts v app).2 with ⟨h1, h2⟩ | ⟨_, h1, h2⟩ <;> rw [h1, h2] <;> omega

/-- without an iterable (the callable raised, or a `start_response` call inside it did) there is nothing to close -/
theorem no_iterable_no_close (v : Variant) (app : App) (h : (runApp v app).iterObtained = false) :
    (runApp v app).closeCalls = 0 ∧ (runApp v app).iterCloseCalls = 0 := by
  rcases (runApp_counts v app).2 with h0 | ⟨ht, _⟩
  · exact h0
  · rw [h] at ht; cases ht

/-- the repaired shape, once the callable has returned an iterable: the whole iteration (start message included) runs
    inside the `try`, and the `finally` closes the returned object -/
private theorem runApp_obtained (app : App) (h : (runApp .checkAtFirstChunk app).iterObtained = true) :
    ∃ r, runApp .checkAtFirstChunk app =
      ⟨(iterate r false app.acts).1, 1, if app.hasClose then 1 else 0, true, (iterate r false app.acts).2, 0⟩ := by
  rcases runApp_cases .checkAtFirstChunk app with ⟨e, io, hr, hio⟩ | ⟨st, hs, hv, _⟩ | ⟨r, _, hr⟩
  · rw [hr] at h
    rcases hio h with he | ⟨hv, _⟩
    · rw [iterEscapes_false] at he; cases he
    · cases hv
  · cases hv
  · exact ⟨r, by rw [hr, closeCounts_returned]⟩

/-- repaired shape, full statement: on every path on which the callable returned an iterable — normal
    end, exception during iteration, lazy `start_response`, no `start_response` at all, an iterable that is not its own
    iterator, an `__iter__` that raises — `close()` of *that iterable* is called exactly once if it has one, and no other
    object is closed in its place -/
theorem close_once (app : App) (h : (runApp .checkAtFirstChunk app).iterObtained = true) :
    (runApp .checkAtFirstChunk app).closeCalls = (if app.hasClose then 1 else 0) ∧
    (runApp .checkAtFirstChunk app).iterCloseCalls = 0 := by
  obtain ⟨r, hr⟩ := runApp_obtained app h
  rw [hr]
  exact ⟨rfl, rfl⟩

/-- an `__iter__` that raises is an error during iteration like any other: nothing is sent, the exception leaves
    `run_app` (so no final message follows), and the iterable is still closed -/
theorem iter_raises_closed (app : App) (hi : app.iterRaises = true) (h : (runApp .checkAtFirstChunk app).iterObtained = true) :
    (runApp .checkAtFirstChunk app).msgs = [] ∧ (runApp .checkAtFirstChunk app).exc = some .appError ∧
    (runApp .checkAtFirstChunk app).closeCalls = if app.hasClose then 1 else 0 := by
  obtain ⟨r, hr⟩ := runApp_obtained app h
  rw [hr]
  simp [App.acts, hi, iterate]

/- Full statement for the code as pinned — FALSE there (F19):
     theorem close_once_as_is (app : App) (h : (runApp .checkAfterCall app).iterObtained = true) :
         (runApp .checkAfterCall app).closeCalls = if app.hasClose then 1 else 0
   The `try … finally: close()` of the pinned `run_app` begins after the `response_started` check. -/

/-- pinned shape: the same, under the extra hypothesis that `start_response` had been called
    (validly) by the time the callable returned -/
theorem close_once_partial (app : App) (h : (runApp .checkAfterCall app).iterObtained = true)
    (hstarted : callPhase none app.call ≠ .ok none) :
    (runApp .checkAfterCall app).closeCalls = if app.hasClose then 1 else 0 := by
  rcases runApp_cases .checkAfterCall app with ⟨e, io, hr, hio⟩ | ⟨st, hs, _, hr⟩ | ⟨r, hv, _⟩
  · rw [hr] at h
    rcases hio h with he | ⟨_, hn⟩
    · rw [iterEscapes_false] at he; cases he
    · exact absurd hn hstarted
  · rw [hr, closeCounts_returned]
  · cases hv

private def noStartApp : App := { call := [], callRaises := false, iter := [.yield "result".b], hasClose := true }

/-- negation witness (pinned shape): an iterable with `close` whose application never called `start_response`
    (or would call it lazily) is dropped without `close()` -/
theorem close_once_fails_as_is :
    ¬ (∀ app : App, (runApp .checkAfterCall app).iterObtained = true →
        (runApp .checkAfterCall app).closeCalls = if app.hasClose then 1 else 0) := by
  intro h
  have := h noStartApp (by decide)
  revert this
  decide

example : (runApp .checkAfterCall lazyApp).iterObtained = true ∧ (runApp .checkAfterCall lazyApp).closeCalls = 0 := by
  decide +kernel
example : (runApp .checkAtFirstChunk noStartApp).closeCalls = 1 ∧
    (runApp .checkAtFirstChunk noStartApp).exc = some .runtimeError ∧ (runApp .checkAtFirstChunk noStartApp).msgs = [] := by decide
-- raise during iteration: chunks before the raise are delivered, close() runs, no final message
example : let r := runApp .checkAfterCall ⟨[⟨"200 OK".toList, []⟩], false, [.yield "a".b, .raise, .yield "b".b], true, true, false, false⟩
    r.msgs = [.start 200 [], .body "a".b true] ∧ r.exc = some .appError ∧ r.closeCalls = 1 := by decide +kernel
-- raise before / after start_response in the call phase: nothing is sent, there is no iterable
example : (runApp .checkAfterCall ⟨[⟨"200 OK".toList, []⟩], true, [.yield "a".b], true, true, false, false⟩).msgs = [] ∧
    (runApp .checkAfterCall ⟨[], true, [], true, true, false, false⟩).iterObtained = false := by decide +kernel
-- a status line without a space / a header outside Latin-1 make start_response itself raise
example : startResponse ⟨"200".toList, []⟩ = .error .valueError ∧
    startResponse ⟨"200 OK".toList, [("x".toList, [Char.ofNat 0x4E2D])]⟩ = .error .unicodeEncodeError := by decide +kernel
-- a resource-holding container whose `__iter__` is a generator (PEP 3333's classic shape): the container is closed, once,
-- on success, after an error in the middle, and when `__iter__` itself raises; the generator's own close() is not a substitute
private def containerApp (acts : List IterAct) (iterRaises : Bool) : App :=
  { call := [⟨"200 OK".toList, []⟩], callRaises := false, iter := acts, hasClose := true, selfIter := false,
    iterRaises := iterRaises, iterHasClose := true }
example : (runApp .checkAtFirstChunk (containerApp [.yield "a".b] false)).closeCalls = 1 ∧
    (runApp .checkAtFirstChunk (containerApp [.yield "a".b] false)).iterCloseCalls = 0 ∧
    (runApp .checkAtFirstChunk (containerApp [.yield "a".b, .raise] false)).closeCalls = 1 ∧
    (runApp .checkAtFirstChunk (containerApp [.yield "a".b] true)).closeCalls = 1 ∧
    (runApp .checkAtFirstChunk (containerApp [.yield "a".b] true)).exc = some .appError := by decide +kernel

end HC.Props.C17
