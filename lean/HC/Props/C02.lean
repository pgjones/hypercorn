import HC.Stream.Http
import HC.Proto.Heads
import HC.Stream.HttpLemmas
import HC.Props.C19
import HC.Proto.H2Window
import HC.Proto.H2WireInv
import HC.Extracted.H2Init
import HC.Props.C07
/-!
# C02 — HTTP response delivery fidelity and legal framing (the hypercorn side of it)

What the application sends is what the protocol layer is given: one response head with the application's headers in
order, the non-empty chunks in order (none when the body must be suppressed), trailers only to an HTTP/2+ client that asked
for them, end-of-response exactly once; and what the libraries are handed for the head.  For HTTP/2 the way on to the wire is
followed frame by frame (section H2: the send path with its contents, `HC.Proto.H2Wire`, for every schedule), the response to
an h2c upgrade is shown to have a stream to travel on, and a response slower than `keep_alive_timeout` is shown not to be cut
off by the idle timer.  The byte-level framing of HTTP/1 is h11's (library), sampled end-to-end by the correspondence run.

Models: `HC/Stream/Http.lean`, `HC/Proto/Heads.lean`, `HC/Proto/H2Window.lean`, `HC/Proto/H2Wire.lean` over `HC/Proto/H2Send.lean`,
`HC/Conn/Server.lean` (slow responses, through C07).  Lemmas: `HC/Stream/HttpLemmas.lean` (the table of `app_send`),
`HC/Proto/H2WireInv.lean` (the invariant of the wire contents, over C09's invariant of the send path).
-/
namespace HC.Props.C02
open HC HC.Stream HC.Stream.Http HC.Extracted

/-- body messages of a well-behaved application: every chunk but the last with `more_body=True` -/
def bodyMsgs : List Bytes → List (Option Msg)
  | [] => [some (.body none false)]
  | [c] => [some (.body (some (.bytes c)) false)]
  | c :: rest => some (.body (some (.bytes c)) true) :: bodyMsgs rest

def wfApp (status : Nat) (hs : List (HV × HV)) (chunks : List Bytes) : List (Option Msg) :=
  some (.start (some status) (some hs) false) :: bodyMsgs chunks

def nonEmpty (c : Bytes) : Bool := !c.isEmpty

/-- specification of the events the protocol layer must be given -/
def specEvents (method : String) (status : Nat) (vh : Headers) (chunks : List Bytes) : List Ev :=
  [.response status vh] ++
  (if Guards.suppressBody method status then [] else (chunks.filter nonEmpty).map Ev.body) ++
  [.endBody, .access (some status), .streamClosed]

/-- the body messages of a well-behaved application, fed to a stream whose head is out: the non-empty chunks become `Body` events;
    the last message ends the response, or - when trailers were announced (`wt`) - leaves the stream waiting for them -/
private theorem feed_bodies (s : S) (status : Nat) (wt : Bool) (hst : s.st = .response) (hr : s.response = some (status, wt))
    (chunks : List Bytes) :
    feed s (bodyMsgs chunks) =
      ({ s with st := if wt then .trailers else .closed },
       (if Guards.suppressBody s.method status then [] else (chunks.filter nonEmpty).map Ev.body) ++
         if wt then [] else [.endBody, .access (some status), .streamClosed]) := by
  induction chunks with
  | nil =>
    by_cases hs : Guards.suppressBody s.method status = true <;> cases wt <;>
      simp [bodyMsgs, feed, appSend, hst, hr, bodyEv, sendClosed, hs]
  | cons c rest ih =>
    cases rest with
    | nil =>
      simp only [bodyMsgs, feed, appSend, hst, hr, sendClosed]
      by_cases hs : Guards.suppressBody s.method status = true <;> cases wt <;> cases c <;> simp [hs, bodyEv, nonEmpty]
    | cons c2 rest2 =>
      have step : appSend s (some (.body (some (.bytes c)) true)) =
          (s, (if Guards.suppressBody s.method status then [] else if c = [] then [] else [Ev.body c]), none) := by
        simp only [appSend, hst, hr]
        by_cases hs : Guards.suppressBody s.method status = true
        · simp [hs]
        · cases c <;> simp [hs, bodyEv]
      have hb : bodyMsgs (c :: c2 :: rest2) = some (.body (some (.bytes c)) true) :: bodyMsgs (c2 :: rest2) := rfl
      rw [hb]
      simp only [feed, step, ih]
      by_cases hs : Guards.suppressBody s.method status = true
      · simp [hs]
      · cases c <;> simp [hs, List.filter_cons, nonEmpty]

/-- **response events = specification of the application's messages**: for every status, header list that validates,
    and chunking (any number of chunks, empty ones included) -/
theorem events_of_wf_app (s : S) (status : Nat) (hs : List (HV × HV)) (vh : Headers) (chunks : List Bytes)
    (h0 : s.st = .request) (hv : validateHeaders hs = .ok vh) :
    (feed s (wfApp status hs chunks)).2 = specEvents s.method status vh chunks ∧
    (feed s (wfApp status hs chunks)).1.st = .closed := by
  have hstart : appSend s (some (.start (some status) (some hs) false)) =
      ({ s with response := some (status, false), st := .response }, [.response status vh], none) := by
    simp [appSend, h0, hv]
  have hb := feed_bodies { s with response := some (status, false), st := .response } status false rfl rfl chunks
  simp only [wfApp, feed, hstart, specEvents, hb]
  simp

def bodiesOf : List Ev → List Bytes
  | [] => []
  | .body d :: r => d :: bodiesOf r
  | _ :: r => bodiesOf r

@[simp] theorem bodiesOf_append (a b : List Ev) : bodiesOf (a ++ b) = bodiesOf a ++ bodiesOf b := by
  induction a with
  | nil => rfl
  | cons x xs ih => cases x <;> simp [bodiesOf, ih]

private theorem bodiesOf_map (l : List Bytes) : bodiesOf (l.map Ev.body) = l := by
  induction l with
  | nil => rfl
  | cons a t ih => simp [bodiesOf, ih]

private theorem flatten_filter_ne (l : List Bytes) : (l.filter nonEmpty).flatten = l.flatten := by
  induction l with
  | nil => rfl
  | cons a t ih => cases a <;> simp [nonEmpty, ih]

/-- the body bytes the protocol is given concatenate to the application's chunks, or to nothing when suppressed -/
theorem body_concat (method : String) (status : Nat) (vh : Headers) (chunks : List Bytes) :
    (bodiesOf (specEvents method status vh chunks)).flatten =
      if Guards.suppressBody method status then [] else chunks.flatten := by
  simp only [specEvents, bodiesOf_append]
  by_cases hs : Guards.suppressBody method status = true
  · simp [hs, bodiesOf]
  · simp [hs, bodiesOf, bodiesOf_map, flatten_filter_ne]

/-- **bodies are omitted exactly for HEAD requests and 1xx / 204 / 304 statuses** (the extracted `suppress_body`) -/
theorem suppress_iff (method : String) (status : Nat) :
    Guards.suppressBody method status = true ↔
      (method = "HEAD" ∨ (100 ≤ status ∧ status < 200) ∨ status = 204 ∨ status = 304) := by
  simp [Guards.suppressBody, or_assoc]

/-- **trailers are emitted only on HTTP/2+ and only to clients that sent `te: trailers`**: of all the ways through `app_send` only the
    two rows `trailers` / `trailersEnd` hand over a `Trailers` event, and both are behind the version test and the `te` test -/
theorem trailers_gate (s : S) (m : Option Msg) (hs : Headers) (h : Ev.trailers hs ∈ (appSend s m).2.1) :
    (s.version = "2" ∨ s.version = "3") ∧ teTrailers s = true := by
  have hr := sent_appSend s m
  generalize appSend s m = o at h hr
  cases hr
  case trailers | trailersEnd =>
    exact ⟨by simpa [inVersions, Consts.http_TRAILERS_VERSIONS] using ‹inVersions s.version Consts.http_TRAILERS_VERSIONS = true›, ‹teTrailers s = true›⟩
  all_goals first | (simp at h; done) | (cases ‹BodyEvs _› <;> simp at h; done) | (cases ‹Closing _ _ _› <;> simp at h)

/-! ### HTTP/2 flow control: a window update reaches every stream it concerns -/
open HC.Proto.H2Window in
/-- **every buffered stream whose window a WINDOW_UPDATE / SETTINGS change can have raised is unblocked**: a
    connection-level update (h2: stream id 0) and an INITIAL_WINDOW_SIZE change (`None`) unblock every stream with a
    buffer, a stream-level update its own stream.  (The tests are extracted from `H2Protocol._window_updated`.)
    Without this a response that ran into the connection window would never resume. -/
theorem window_update_unblocks (buffers : List Nat) (sid : Option Nat) (j : Nat) (hj : j ∈ buffers) (hb : benefits sid j = true) :
    j ∈ unblocked buffers sid := by
  cases sid with
  | none => simp [unblocked, ReqGlue.windowUpdateAll, hj]
  | some i =>
    by_cases h0 : i = 0
    · subst h0; simp [unblocked, ReqGlue.windowUpdateAll, hj]
    · have hij : i = j := by simpa [benefits, h0] using hb
      subst hij
      simp [unblocked, ReqGlue.windowUpdateAll, ReqGlue.windowUpdateOne, h0, hj]

open HC.Proto.H2Window in
/-- only streams that have a buffer are touched (so `priority.unblock` is never asked about a stream it has lost) -/
theorem window_update_only_buffered (buffers : List Nat) (sid : Option Nat) (j : Nat) (h : j ∈ unblocked buffers sid) : j ∈ buffers := by
  cases sid with
  | none =>
    simp only [unblocked] at h
    split at h
    · exact h
    · split at h <;> simp at h
  | some i =>
    simp only [unblocked] at h
    split at h
    · exact h
    · split at h
      · rename_i h1
        simp only [Option.toList_some, List.mem_singleton] at h
        subst h
        simpa [ReqGlue.windowUpdateOne] using h1
      · simp at h

open HC.Proto.H2Window in
example : unblocked [1, 3, 5] (some 0) = [1, 3, 5] ∧ unblocked [1, 3, 5] (some 3) = [3] ∧ unblocked [1, 3, 5] (some 7) = [] := by decide +kernel

/-! ### HTTP/2 trailers: kept until the body has gone out, then sent as the one frame that ends the stream -/
/-- `stream_send(Trailers)` sends nothing by itself: it appends the fields to the stream buffer's `trailers`
    (h2 accepts trailers only as the frame that ends the stream) -/
theorem trailers_deferred :
    ReqGlue.trailersBranchCalls = ["self.stream_buffers[event.stream_id].trailers.extend(event.headers)"] := rfl

open HC.Proto.H2Window in
/-- **end-of-response exactly once, with or without trailers**: `_end_stream` makes exactly one h2 call and that call
    ends the stream — the HEADERS frame with the pending trailers and END_STREAM when there are any, the empty DATA
    frame with END_STREAM otherwise -/
theorem one_end_of_stream (n : Nat) :
    (endCalls n).length = 1 ∧
    (0 < n → endCalls n = ["send_headers(stream_id, trailers, end_stream=True)"]) ∧
    (n = 0 → endCalls n = ["end_stream(stream_id)"]) := by
  by_cases h : 0 < n
  · simp [endCalls, ReqGlue.endStreamTest, ReqGlue.endWithTrailers, h]; omega
  · have h0 : n = 0 := by omega
    subst h0
    simp [endCalls, ReqGlue.endStreamTest, ReqGlue.endWithoutTrailers]

/-- the trailer fields the protocol has been handed for a stream, in order (several `http.response.trailers`
    messages form the one trailing block HTTP/2 allows) -/
def pendingTrailers (evs : List Ev) : Headers :=
  (evs.filterMap (fun e => match e with | .trailers h => some h | _ => none)).flatten

/-- **trailers are emitted to an HTTP/2 client that sent `te: trailers`** (the converse of `trailers_gate`): in the
    TRAILERS state every `http.response.trailers` message whose headers validate hands exactly those fields to the
    protocol, and the last one (`more_trailers = False`) is followed by the end of the response -/
theorem trailers_emitted (s : S) (hs : List (HV × HV)) (vh : Headers) (more : Bool)
    (hv : s.version = "2") (hst : s.st = .trailers) (hte : teTrailers s = true) (hval : validateHeaders hs = .ok vh) :
    (appSend s (some (.trailers (some hs) more))).2.1 = (if more then [.trailers vh] else (sendClosed s [.trailers vh]).2.1) ∧
    pendingTrailers (appSend s (some (.trailers (some hs) more))).2.1 = vh := by
  have hin : inVersions s.version Consts.http_TRAILERS_VERSIONS = true := by
    rw [hv]; decide
  cases more with
  | true => simp [appSend, hin, hst, hte, hval, pendingTrailers]
  | false =>
    have e : appSend s (some (.trailers (some hs) false)) = sendClosed s [.trailers vh] := by
      simp [appSend, hin, hst, hte, hval]
    rw [e]
    refine ⟨by simp, ?_⟩
    simp only [sendClosed]
    split <;> simp [pendingTrailers]

/-! ### what the libraries are handed -/
open HC.Proto.Heads

/-- **HTTP/1 head**: the application's headers in order, followed only by the server's own
    (`response_headers("h11")`), then `connection: close` iff the per-connection request maximum is reached -/
theorem h1_head (status : Nat) (app srv : Headers) (n mx : Nat) (hs : 200 ≤ status) :
    h11Response status app srv n mx =
      .final status (app ++ srv ++ (if n ≥ mx then [("connection".b, "close".b)] else [])) := by
  have : Guards.h11FinalStatusCmp.eval status 200 = true := by
    simp [Guards.h11FinalStatusCmp, Guards.Cmp.eval, hs]
  unfold h11Response
  rw [if_pos this]
  simp [Guards.h11KeepAliveCmp, Guards.Cmp.eval]

theorem h1_informational (status : Nat) (app srv : Headers) (n mx : Nat) (hs : status < 200) :
    h11Response status app srv n mx = .informational status (app ++ srv) := by
  have : ¬ Guards.h11FinalStatusCmp.eval status 200 = true := by
    simp [Guards.h11FinalStatusCmp, Guards.Cmp.eval]; omega
  unfold h11Response
  rw [if_neg this]

/-- **HTTP/2 head**: `:status`, the application's headers in order, then only the server's own -/
theorem h2_head (status : Nat) (app srv : Headers) :
    h2Headers status app srv = (":status".b, natBytes status) :: (app ++ srv) := rfl

/-- the server's own headers are date / server / alt-svc only (C19 `response_headers_spec`), so the application's
    headers are followed *only* by date / server / alt-svc / connection -/
theorem head_tail_names (c : Config.HeaderCfg) (date proto : Bytes) (status : Nat) (app : Headers) (n mx : Nat) (hs : 200 ≤ status) :
    ∃ tail, h11Response status app (Config.responseHeaders c date proto) n mx = .final status (app ++ tail) ∧
      ∀ h ∈ tail, h.1 = "date".b ∨ h.1 = "server".b ∨ h.1 = "alt-svc".b ∨ h.1 = "connection".b := by
  refine ⟨Config.responseHeaders c date proto ++ (if n ≥ mx then [("connection".b, "close".b)] else []), ?_, ?_⟩
  · rw [h1_head status app _ n mx hs]; simp
  · intro h hh
    rcases List.mem_append.mp hh with hh | hh
    · have := (HC.Props.C19.response_headers_spec c date proto).1 h hh
      rcases this with h1 | h1 | h1 <;> simp [h1]
    · split at hh <;> simp at hh; subst hh; simp

example : (feed { method := "GET", version := "1.1" } (wfApp 200 [(.bytes "x-a".b, .bytes "1".b)] ["ab".b, [], "c".b])).2 =
    [.response 200 [("x-a".b, "1".b)], .body "ab".b, .body "c".b, .endBody, .access (some 200), .streamClosed] := by decide +kernel
example : (feed { method := "HEAD", version := "1.1" } (wfApp 200 [] ["ab".b])).2 =
    [.response 200 [], .endBody, .access (some 200), .streamClosed] := by decide +kernel

/-! ### HTTP/2 end to end: application messages → stream events → send path → frames on the wire -/
section H2
open HC.Proto.H2Wire HC.Proto.H2Send HC.Proto.Heads

/-- the source facts the contents wrapper rests on (read off `h2.py` by `tools/extract_req.py`): the response head is
    `send_headers(stream_id, [(":status", …)] + event.headers + response_headers("h2"))`; what `_send_data` pops is what it hands
    to `send_data`; `StreamBuffer.push` extends the buffer at the back, `pop` takes `buffer[:length]` from the front -/
theorem h2_contents_assumed :
    ReqGlue.h2HeadArgs = ["event.stream_id", "[(b':status', b'%d' % event.status_code)] + event.headers + self.config.response_headers('h2')"] ∧
    ReqGlue.sendDataArgs = ["data", "stream_id", "data"] ∧
    ReqGlue.bufferFifo = ["self.buffer.extend(data)", "length = min(len(self.buffer), max_length)", "data = bytes(self.buffer[:length])",
                          "del self.buffer[:length]"] := ⟨rfl, rfl, rfl⟩

/-- the frame that ends a stream is the trailers HEADERS frame exactly when trailers are pending -/
theorem end_frame_spec (t : Headers) : endFrame t = (if t = [] then Frame.endStream else Frame.trailersEnd t) := by
  cases t <;> simp [endFrame, ReqGlue.endStreamTest]

/-- **the send path with contents refines the send path of C08/C09**: the `H2Send` component of every wrapped run is an
    `H2Send` run from `init` that meets `opOk` — so it is `Reachable`, and every theorem of C08/C09 applies to it -/
theorem wire_refines (srv : Headers) (cw : Int) (mf : Nat) (hmf : 0 < mf) (ops : List GOp) (g : G)
    (hok : gAllOk srv (ginit cw mf) ops) (hr : grun srv (ginit cw mf) ops = some g) :
    runOk (init cw mf) (ops.flatMap proj) = some g.s ∧ HC.Props.C09.allOk (init cw mf) (ops.flatMap proj) ∧ HC.Props.C09.Reachable g.s :=
  ⟨(run_proj srv ops _ _ hok hr).1, (run_proj srv ops _ _ hok hr).2, run_reachable srv cw mf hmf ops g hok hr⟩

/-- the contents model never disagrees with the byte counters: what `bufB` holds for a stream is as long as `H2Send` says its
    buffer is, and — while the connection is open and the stream not reset — DATA written ++ bytes buffered = bytes handed
    over (FIFO: nothing reordered, nothing lost, nothing invented) -/
theorem fifo (srv : Headers) (cw : Int) (mf : Nat) (hmf : 0 < mf) (ops : List GOp) (g : G)
    (hok : gAllOk srv (ginit cw mf) ops) (hr : grun srv (ginit cw mf) ops = some g) (i : Nat) :
    (g.bufB i).length = (g.s.str i).buf ∧
    (g.s.closed = false → (g.s.str i).libClosed = false → ph (g.hist i) ≠ 9 →
      dataOf (wireOf i g.out) ++ g.bufB i = bodyOf (g.hist i)) := by
  have hp := p_run srv ops _ g (p_init srv cw mf hmf) hok hr
  exact ⟨hp.len i, fun h1 h2 h3 => (hp.str i ⟨h1, h2, h3⟩).jd⟩

/-- **HTTP/2 response delivery, for every schedule.**  Take any schedule `ops` of the send path — any interleaving of
    the stream events of any number of streams with WINDOW_UPDATE / SETTINGS / PRIORITY frames, the send task's picks
    (whatever unblocked stream the priority tree hands out), its suspensions inside `_send_data`, and the wake-ups of waiting
    senders — in which the stream events of stream `i` are those of one response: head `(status, vh)`, body chunks `ds` (any
    number, any sizes: beyond the frame size, beyond the windows), trailers `ts`, end of body (and stream closed).  If the
    schedule ends with the send task quiescent, the connection open, the stream not reset and credit available on the
    stream and the connection, then the client has been sent on stream `i` **exactly**:
    one HEADERS frame `:status ++ vh ++ server headers`, then DATA frames whose payloads concatenate to `ds.flatten`,
    then exactly one frame that ends the stream — the empty DATA frame with END_STREAM, or, when there are trailers, the
    HEADERS frame carrying all of them and END_STREAM — and nothing else. -/
theorem h2_response_delivered (srv : Headers) (cw : Int) (mf : Nat) (hmf : 0 < mf) (ops : List GOp) (g : G)
    (hok : gAllOk srv (ginit cw mf) ops) (hr : grun srv (ginit cw mf) ops = some g)
    (i status : Nat) (vh : Headers) (ds : List Bytes) (ts : List Headers) (closed : Bool)
    (happ : appOps i ops = script status vh ds ts closed)
    (hq : HC.Props.C09.taskQuiescent g.s) (hc : g.s.closed = false) (hl : (g.s.str i).libClosed = false)
    (hw : 0 < (g.s.str i).window) (hcw : 0 < g.s.connWin) :
    ∃ frames : List Bytes,
      wireOf i g.out = [.headers (h2Headers status vh srv)] ++ frames.map Frame.data ++ [endFrame ts.flatten] ∧
      frames.flatten = ds.flatten := by
  have hp := p_run srv ops _ g (p_init srv cw mf hmf) hok hr
  have hreach := run_reachable srv cw mf hmf ops g hok hr
  have hh : g.hist i = (script status vh ds ts closed).reverse := by
    have := run_hist srv i ops _ g hr
    simpa [happ, ginit] using this
  obtain ⟨r1, r2, r3, r4, r5⟩ := script_read srv status vh ds ts closed
  rw [← hh] at r1 r2 r3 r4 r5
  have jj := hp.str i ⟨hc, hl, r2⟩
  have hne : g.hist i ≠ [] := by intro h0; rw [h0] at r1; simp [ph] at r1
  have ho : (g.s.str i).opened = true := by
    cases h : (g.s.str i).opened
    · exact absurd (jj.jopen h) hne
    · rfl
  obtain ⟨d1, d2, d3⟩ := HC.Props.C09.delivered_when_quiescent g.s hreach hq hc i ho hl hw hcw
  have hcpl : (g.s.str i).complete = true := jj.jc.mpr r1
  have hend : (g.s.str i).ended = true := d3.mpr hcpl
  have hb : g.bufB i = [] := by
    have := hp.len i
    rw [d1] at this
    exact List.eq_nil_of_length_eq_zero this
  have hd := jj.jd
  rw [hb, List.append_nil, r3] at hd
  have he := jj.je
  rw [hend, r4] at he
  simp only [if_true] at he
  have hhd := jj.jh
  rw [r5] at hhd
  obtain ⟨f1, f2⟩ := filter_isData (wireOf i g.out)
  refine ⟨payloads (wireOf i g.out), ?_, by rw [f2, hd]⟩
  have hs := jj.js
  unfold Sorted at hs
  rw [hhd, f1, he] at hs
  exact hs

theorem evOps_append (a b : List Ev) : evOps (a ++ b) = evOps a ++ evOps b := by
  induction a with
  | nil => rfl
  | cons x xs ih => cases x <;> simp [evOps, ih]

theorem evOps_bodies (l : List Bytes) : evOps (l.map Ev.body) = l.map AOp.body := by
  induction l with
  | nil => rfl
  | cons x xs ih => simp [evOps, ih]

/-- the events of a well-behaved application (C02 `events_of_wf_app`) are, for `stream_send`, the script of one response -/
theorem wf_app_script (method : String) (status : Nat) (vh : Headers) (chunks : List Bytes) :
    evOps (specEvents method status vh chunks) =
      script status vh (if Guards.suppressBody method status then [] else chunks.filter nonEmpty) [] true := by
  simp only [specEvents, evOps_append, script]
  by_cases hs : Guards.suppressBody method status = true <;> simp [hs, evOps, evOps_bodies]

/-- **C02 over HTTP/2, end to end in the model**: for every final status, every header list that validates, every
    chunking of the body (any number of chunks, empty ones included, any sizes) and every schedule of the send path in
    which the application of stream `i` sends `http.response.start` + its body messages through its `HTTPStream`
    (`Http.feed`, the model of `app_send`), a schedule that ends quiescent with credit, the stream not reset and the
    connection open: the client is sent one HEADERS frame `:status ++ validated app headers ++ server headers`, then DATA
    whose concatenation is exactly the concatenation of the chunks (nothing when the body must be suppressed), then
    exactly one empty DATA frame with END_STREAM — and nothing else on that stream. -/
theorem h2_response_end_to_end (s0 : S) (status : Nat) (hs : List (HV × HV)) (vh : Headers) (chunks : List Bytes)
    (h0 : s0.st = .request) (hv : validateHeaders hs = .ok vh)
    (srv : Headers) (cw : Int) (mf : Nat) (hmf : 0 < mf) (ops : List GOp) (g : G)
    (hok : gAllOk srv (ginit cw mf) ops) (hr : grun srv (ginit cw mf) ops = some g) (i : Nat)
    (happ : appOps i ops = evOps (feed s0 (wfApp status hs chunks)).2)
    (hq : HC.Props.C09.taskQuiescent g.s) (hc : g.s.closed = false) (hl : (g.s.str i).libClosed = false)
    (hw : 0 < (g.s.str i).window) (hcw : 0 < g.s.connWin) :
    ∃ frames : List Bytes,
      wireOf i g.out = [.headers ((":status".b, natBytes status) :: (vh ++ srv))] ++ frames.map Frame.data ++ [.endStream] ∧
      frames.flatten = (if Guards.suppressBody s0.method status then [] else chunks.flatten) := by
  rw [(events_of_wf_app s0 status hs vh chunks h0 hv).1, wf_app_script] at happ
  obtain ⟨frames, h1, h2⟩ := h2_response_delivered srv cw mf hmf ops g hok hr i status vh _ [] true happ hq hc hl hw hcw
  refine ⟨frames, ?_, ?_⟩
  · simpa [endFrame, ReqGlue.endStreamTest, h2Headers] using h1
  · rw [h2]
    by_cases hsup : Guards.suppressBody s0.method status = true
    · simp [hsup]
    · simp only [hsup]
      exact flatten_filter_ne chunks

/-- the `http.response.trailers` messages of a well-behaved application: every one but the last with `more_trailers=True` -/
def trailerMsgs : List (List (HV × HV)) → List (Option Msg)
  | [] => []
  | [t] => [some (.trailers (some t) false)]
  | t :: rest => some (.trailers (some t) true) :: trailerMsgs rest

/-- an application that announces trailers (`"trailers": True` in `http.response.start`), sends its body, then its trailers -/
def wfAppT (status : Nat) (hs : List (HV × HV)) (chunks : List Bytes) (trs : List (List (HV × HV))) : List (Option Msg) :=
  some (.start (some status) (some hs) true) :: (bodyMsgs chunks ++ trailerMsgs trs)

/-- every trailer list validates (`build_and_validate_headers` per message) -/
def validateAll : List (List (HV × HV)) → Except PyErr (List Headers)
  | [] => .ok []
  | t :: rest => do
    let v ← validateHeaders t
    let r ← validateAll rest
    pure (v :: r)

theorem feed_append (s : S) (a b : List (Option Msg)) :
    feed s (a ++ b) = ((feed (feed s a).1 b).1, (feed s a).2 ++ (feed (feed s a).1 b).2) := by
  induction a generalizing s with
  | nil => simp [feed]
  | cons m ms ih => simp only [List.cons_append, feed, ih, List.append_assoc]

private theorem feed_trailers (s : S) (status : Nat) (b : Bool) (hst : s.st = .trailers) (hv : s.version = "2") (hr : s.response = some (status, b)) :
    ∀ (trs : List (List (HV × HV))) (tvs : List Headers), validateAll trs = .ok tvs → trs ≠ [] →
      (feed s (trailerMsgs trs)).2 = (if teTrailers s then tvs.map Ev.trailers else []) ++ [.endBody, .access (some status), .streamClosed] := by
  have hin : inVersions s.version Consts.http_TRAILERS_VERSIONS = true := by rw [hv]; decide
  intro trs
  induction trs with
  | nil => intro _ _ h; exact absurd rfl h
  | cons t ts ih =>
    intro tvs hf _
    simp only [validateAll, bind, Except.bind, pure, Except.pure] at hf
    cases htv : validateHeaders t with
    | error e => simp [htv] at hf
    | ok v =>
      cases hrest : validateAll ts with
      | error e => simp [htv, hrest] at hf
      | ok vs =>
        simp only [htv, hrest, Except.ok.injEq] at hf
        subst hf
        cases ts with
        | nil =>
          simp only [validateAll, Except.ok.injEq] at hrest
          subst hrest
          by_cases hte : teTrailers s = true
          · simp [trailerMsgs, feed, appSend, hin, hst, hte, htv, sendClosed, hr]
          · simp [trailerMsgs, feed, appSend, hin, hst, hte, sendClosed, hr]
        | cons t2 ts2 =>
          have ih' := ih vs hrest (by simp)
          have hm : trailerMsgs (t :: t2 :: ts2) = some (.trailers (some t) true) :: trailerMsgs (t2 :: ts2) := rfl
          rw [hm]
          by_cases hte : teTrailers s = true
          · have step : appSend s (some (.trailers (some t) true)) = (s, [.trailers v], none) := by
              simp [appSend, hin, hst, hte, htv]
            simp only [feed, step, ih', hte, if_true]
            simp
          · have step : appSend s (some (.trailers (some t) true)) = (s, [], none) := by
              simp [appSend, hin, hst, hte]
            simp only [feed, step, ih', hte]
            simp

/-- **response events with trailers**: for an HTTP/2 request, every status, header list and trailer lists that validate,
    every chunking: one response head, the non-empty chunks in order, then — iff the client sent `te: trailers` — the
    trailers of every `http.response.trailers` message in order, then end-of-body, the access record and stream-closed -/
theorem events_of_wf_app_trailers (s : S) (status : Nat) (hs : List (HV × HV)) (vh : Headers) (chunks : List Bytes)
    (trs : List (List (HV × HV))) (tvs : List Headers)
    (h0 : s.st = .request) (hver : s.version = "2") (hv : validateHeaders hs = .ok vh)
    (htv : validateAll trs = .ok tvs) (hne : trs ≠ []) :
    (feed s (wfAppT status hs chunks trs)).2 =
      [.response status vh] ++ (if Guards.suppressBody s.method status then [] else (chunks.filter nonEmpty).map Ev.body) ++
      (if teTrailers s then tvs.map Ev.trailers else []) ++ [.endBody, .access (some status), .streamClosed] := by
  have hstart : appSend s (some (.start (some status) (some hs) true)) =
      ({ s with response := some (status, true), st := .response }, [.response status vh], none) := by
    simp [appSend, h0, hv]
  have hb := feed_bodies { s with response := some (status, true), st := .response } status true rfl rfl chunks
  simp only [wfAppT, feed, hstart, feed_append, hb, if_true, List.append_nil]
  have h3 := feed_trailers { s with response := some (status, true), st := .trailers } status true rfl hver rfl trs tvs htv hne
  rw [h3]
  simp [teTrailers]

theorem evOps_trailers (l : List Headers) : evOps (l.map Ev.trailers) = l.map AOp.trailers := by
  induction l with
  | nil => rfl
  | cons x xs ih => simp [evOps, ih]

/-- **C02 over HTTP/2 with trailers, end to end in the model**: as `h2_response_end_to_end`, for an application that announces
    and sends trailers.  To a client that sent `te: trailers` the stream is ended by the HEADERS frame carrying the trailers of
    all `http.response.trailers` messages, in order, and END_STREAM (the one trailing block HTTP/2 allows); to any other client
    by the empty DATA frame with END_STREAM, the trailers being dropped — after one HEADERS frame and DATA equal to the chunks -/
theorem h2_response_trailers_end_to_end (s0 : S) (status : Nat) (hs : List (HV × HV)) (vh : Headers) (chunks : List Bytes)
    (trs : List (List (HV × HV))) (tvs : List Headers)
    (h0 : s0.st = .request) (hver : s0.version = "2") (hv : validateHeaders hs = .ok vh) (htv : validateAll trs = .ok tvs) (hne : trs ≠ [])
    (srv : Headers) (cw : Int) (mf : Nat) (hmf : 0 < mf) (ops : List GOp) (g : G)
    (hok : gAllOk srv (ginit cw mf) ops) (hr : grun srv (ginit cw mf) ops = some g) (i : Nat)
    (happ : appOps i ops = evOps (feed s0 (wfAppT status hs chunks trs)).2)
    (hq : HC.Props.C09.taskQuiescent g.s) (hc : g.s.closed = false) (hl : (g.s.str i).libClosed = false)
    (hw : 0 < (g.s.str i).window) (hcw : 0 < g.s.connWin) :
    ∃ frames : List Bytes,
      wireOf i g.out = [.headers ((":status".b, natBytes status) :: (vh ++ srv))] ++ frames.map Frame.data ++
        [endFrame (if teTrailers s0 then tvs.flatten else [])] ∧
      frames.flatten = (if Guards.suppressBody s0.method status then [] else chunks.flatten) := by
  rw [events_of_wf_app_trailers s0 status hs vh chunks trs tvs h0 hver hv htv hne] at happ
  have hscript : evOps ([Ev.response status vh] ++ (if Guards.suppressBody s0.method status then [] else (chunks.filter nonEmpty).map Ev.body) ++
      (if teTrailers s0 then tvs.map Ev.trailers else []) ++ [.endBody, .access (some status), .streamClosed]) =
      script status vh (if Guards.suppressBody s0.method status then [] else chunks.filter nonEmpty) (if teTrailers s0 then tvs else []) true := by
    simp only [evOps_append, script]
    by_cases hs1 : Guards.suppressBody s0.method status = true <;> by_cases hs2 : teTrailers s0 = true <;>
      simp [hs1, hs2, evOps, evOps_bodies, evOps_trailers]
  rw [hscript] at happ
  obtain ⟨frames, h1, h2⟩ := h2_response_delivered srv cw mf hmf ops g hok hr i status vh _ _ true happ hq hc hl hw hcw
  refine ⟨frames, ?_, ?_⟩
  · rw [h1]
    by_cases hs2 : teTrailers s0 = true <;> simp [hs2, h2Headers]
  · rw [h2]
    by_cases hsup : Guards.suppressBody s0.method status = true
    · simp [hsup]
    · simp only [hsup]
      exact flatten_filter_ne chunks

/-- non-vacuity: a small window (5) and frame size (4), a stall at the exhausted window, credit, trailers: the hypotheses of
    `h2_response_delivered` hold at the end of this schedule and the wire is as the theorem says -/
def exOps : List GOp :=
  [.low (.open_ 1 5), .head 1 200 [("x-a".b, "1".b)], .body 1 "abcdef".b, .low (.pick 1), .low (.sent 1), .low (.pick 1), .low (.sent 1),
   .low (.pick 1), .body 1 "gh".b, .trailers 1 [("x-t".b, "v".b)], .low (.end_ 1), .low (.pick 1), .low .park, .low (.winStream 1 100), .low .wake,
   .low (.pick 1), .low (.sent 1), .low (.endSent 1), .low (.drainWake 1), .low (.abandon 1), .low .park, .low .wake, .low .park]

example : ∃ g, grun [("server".b, "h".b)] (ginit 65535 4) exOps = some g ∧
    g.s.task = .parked ∧ g.s.hasData = false ∧ g.s.closed = false ∧ (g.s.str 1).libClosed = false ∧ 0 < (g.s.str 1).window ∧ 0 < g.s.connWin ∧
    appOps 1 exOps = script 200 [("x-a".b, "1".b)] ["abcdef".b, "gh".b] [[("x-t".b, "v".b)]] true ∧
    wireOf 1 g.out = [.headers [(":status".b, "200".b), ("x-a".b, "1".b), ("server".b, "h".b)], .data "abcd".b, .data "e".b, .data "fgh".b,
                      .trailersEnd [("x-t".b, "v".b)]] := by
  refine ⟨_, rfl, ?_⟩
  decide +kernel

end H2

/-! ### the response to an h2c upgrade request has a stream to travel on -/

/-- **an `Upgrade: h2c` request always gets stream 1**: `H2Protocol.initiate` - its test is read off the source
    (`H2Init.upgradePath`) - takes h2's upgrade entry point, the only one that creates stream 1 (half-closed for the client),
    for EVERY HTTP2-Settings value the HTTP/1 side hands over: the client's real settings and the empty string of an empty
    or absent header alike.  On `initiate_connection()` instead, h2 refuses every send on stream 1 and the client gets the
    101, the server preface and nothing of the response. -/
theorem h2c_response_has_a_stream (settings : Bytes) : HC.Extracted.H2Init.upgradePath (some settings) = true := by
  simp [HC.Extracted.H2Init.upgradePath]

/-- prior knowledge and ALPN (`initiate()` without settings) start a plain connection: the client opens its own streams -/
theorem prior_knowledge_opens_no_stream : HC.Extracted.H2Init.upgradePath none = false := by
  simp [HC.Extracted.H2Init.upgradePath]

/-- the HTTP/1 side hands over a value (the empty one when there is no HTTP2-Settings header), never `None` -/
theorem h2c_settings_always_given : HC.Extracted.H2Init.h2cSettingsDefaultEmpty = true := rfl

/-! ### a response that takes longer than `keep_alive_timeout` ("every pace")

The keep-alive time-out is about idle connections; the timed connection model and its invariant are C07's
(`HC.Conn.Server`, `HC.Props.C07`).  What C02 needs of them: while a response is in progress the idle timer is not armed, so
however long the application pauses between its messages (or the client takes to read them) that timer cannot close the
connection under the response - on every carrier, the cleartext prior-knowledge switch included, whose `Updated(idle=True)`
is the one idle report sent without looking at the streams (its place in `ProtocolWrapper.handle` is extracted). -/
section Slow
open HC.Conn

/-- a request on a registered HTTP stream the peer has not abandoned whose response has not ended is what C07 calls busy -/
theorem response_in_progress_is_busy (s : Conn.St) (i : Nat) (hl : i ∈ s.live) (hk : (s.inst i).kind = Conn.Kind.http)
    (hc : (s.inst i).closed = false) (he : (s.inst i).respEnded = false) : s.busy = true := by
  simp only [St.busy, List.any_eq_true]
  exact ⟨i, hl, by simp [Inst.busy, hk, hc, he]⟩

/-- **a slow response is not cut off by the keep-alive timer**: in every reachable state of the connection model (every
    configuration: protocol, worker, every `keep_alive_timeout`; every operation sequence: any carrier, any split of the
    first bytes) in which a response is in progress, the idle timer is not armed, its firing is not enabled, and any
    amount of time may pass without that changing the state otherwise -/
theorem slow_response_not_timed_out (cfg : Conn.Cfg) (ops : List Conn.Op) (s : Conn.St) (hr : run (init cfg) ops = some s) (i : Nat)
    (hl : i ∈ s.live) (hk : (s.inst i).kind = Conn.Kind.http) (hc : (s.inst i).closed = false) (he : (s.inst i).respEnded = false) :
    s.timer = none ∧ step s .timerFire = none ∧ ∀ d, step s (.tick d) = some { s with now := s.now + d } := by
  have hb := response_in_progress_is_busy s i hl hk hc he
  have ht : s.timer = none := by
    cases h : s.timer with
    | none => rfl
    | some dl =>
      have := HC.Props.C07.timer_armed_implies_not_busy cfg ops s hr (by simp [h])
      simp [hb] at this
  refine ⟨ht, ?_, ?_⟩
  · simp [step, ht]
  · intro d
    simp [step, ht]

/-- the cleartext prior-knowledge switch reports the connection idle BEFORE it hands over the bytes that followed the preface
    (extracted from `ProtocolWrapper.handle`): a request among them - the usual first flight of an HTTP/2 client: preface,
    SETTINGS and HEADERS in one segment - stops the timer afterwards; reported after them, the report would arm the timer
    under that request's response (the model's `lateIdle` branch, which the invariant does not survive) -/
theorem prior_switch_reports_idle_before_the_request : HC.Extracted.ConnGuards.priorIdleBeforeData = true := by decide

/-- non-vacuity: prior knowledge with the request head and the end of the request in the read of the preface, the first part
    of the response sent, then three time-outs of silence from the application: the hypotheses of `slow_response_not_timed_out`
    hold (stream 0 registered, not abandoned, its response not ended), the timer is off, nothing is closed; the connection
    is closed one time-out after the response has ended -/
example : (run (init { proto := .h2, T := 5000 }) [.read, .h2prior, .head {}, .h2eom 0, .needData, .appRecv 0, .appSend 0 (.start false),
      .appSend 0 (.body true true), .tick 15000]).map
    (fun s => (s.live, (s.inst 0).kind == .http, (s.inst 0).closed, (s.inst 0).respEnded)) = some ([0], true, false, false) := by decide +kernel
example : (run (init { proto := .h2, T := 5000 }) [.read, .h2prior, .head {}, .h2eom 0, .needData, .appRecv 0, .appSend 0 (.start false),
      .appSend 0 (.body true true), .tick 15000]).map
    (fun s => (s.timer, s.closedByServer, s.now)) = some (none, false, 15000) := by decide +kernel
example : (run (init { proto := .h2, T := 5000 }) [.read, .h2prior, .head {}, .h2eom 0, .needData, .appRecv 0, .appSend 0 (.start false),
      .appSend 0 (.body true true), .tick 15000, .appSend 0 (.body false true), .resume (.app 0), .appExit 0, .tick 5000, .timerFire]).map
    (fun s => (s.closeAt, (s.inst 0).respEnded)) = some (some 20000, true) := by decide +kernel

end Slow

end HC.Props.C02
