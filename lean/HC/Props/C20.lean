import HC.Pure.Middleware
/-!
# C20 — Middleware semantics: proxy trust boundary, dispatch routing, HTTPS redirect

The theorems about the model `HC/Pure/Middleware.lean`, and the notions their statements need (`Enough`, `FanOp.inRange`,
`startupIdx`/`shutdownIdx`, `absPath`).
-/
namespace HC.Props.C20
open HC HC.Middleware

/-! ### ProxyFix: the trust boundary -/

/-- the extracted comparator is `≥` (re-checked against the source on every run) -/
theorem enough_cmp (a b : Nat) : Extracted.Guards.proxyEnoughCmp.eval a b = decide (a ≥ b) := by
  simp [Extracted.Guards.proxyEnoughCmp, Extracted.Guards.Cmp.eval]

theorem values_append (name : Bytes) (pre hs : Headers) :
    values name (pre ++ hs) = values name pre ++ values name hs := by
  simp [values]

/-- a client that writes `a` in front of a comma-separated value contributes only leading values -/
theorem lineValues_prepend (a v : Bytes) : lineValues (a ++ 44 :: v) = lineValues a ++ lineValues v := by
  simp [lineValues, Bytes.splitOnB_append_sep]

/-- the trusted value is counted from the end: values in front of `hops` trusted ones do not matter -/
private theorem getTrusted_of_values (name : Bytes) (hs' hs : Headers) (pre : List Bytes) (hops : Nat)
    (hv : values name hs' = pre ++ values name hs) (h : hops ≤ (values name hs).length) :
    getTrusted name hs' hops = getTrusted name hs hops := by
  unfold getTrusted
  simp only [enough_cmp, decide_eq_true_eq, hv]
  split
  · rfl
  · have h1 : (pre ++ values name hs).length ≥ hops := by simp; omega
    rw [if_pos h1, List.getElem?_append_right (by simp; omega)]
    congr 1; simp; omega

/-- **Anything a client puts in earlier header lines is never used** (the trusted proxies having appended
    at least `hops` values). -/
theorem trusted_value_ignores_prefix (name : Bytes) (pre hs : Headers) (hops : Nat)
    (h : hops ≤ (values name hs).length) :
    getTrusted name (pre ++ hs) hops = getTrusted name hs hops :=
  getTrusted_of_values name _ hs _ hops (values_append name pre hs) h

/-- the same when the client's values are prepended *inside* the first matching header line -/
theorem trusted_value_ignores_inline_prefix (name n a v : Bytes) (hs : Headers) (hops : Nat)
    (hn : Bytes.lower n = name) (h : hops ≤ (values name ((n, v) :: hs)).length) :
    getTrusted name ((n, a ++ 44 :: v) :: hs) hops = getTrusted name ((n, v) :: hs) hops :=
  getTrusted_of_values name _ _ (lineValues a) hops (by simp [values, hn, lineValues_prepend]) h

/-- every forwarding header the mode reads carries at least `hops` trusted values -/
def Enough (modern : Bool) (hops : Nat) (hs : Headers) : Prop :=
  if modern then hops ≤ (values "forwarded".b hs).length
  else hops ≤ (values "x-forwarded-for".b hs).length ∧ hops ≤ (values "x-forwarded-proto".b hs).length ∧
       hops ≤ (values "x-forwarded-host".b hs).length

/-- client, scheme and host are chosen from the trusted values alone -/
theorem trusted_ignores_prefix (modern : Bool) (hops : Nat) (pre hs : Headers) (h : Enough modern hops hs) :
    trusted modern hops (pre ++ hs) = trusted modern hops hs := by
  unfold trusted
  cases modern with
  | true =>
    simp only [Enough, if_true] at h
    simp only [if_true, trusted_value_ignores_prefix _ pre hs hops h]
    cases hg : getTrusted "forwarded".b hs hops with
    | some v => rfl
    | none =>
      -- enough values and none ⇒ hops = 0 ⇒ every lookup is none
      have h0 : hops = 0 := by
        unfold getTrusted at hg
        simp only [enough_cmp, decide_eq_true_eq] at hg
        by_cases h0 : hops = 0
        · exact h0
        · simp only [h0, if_false, ge_iff_le, h, if_true] at hg
          have : (values "forwarded".b hs).length - hops < (values "forwarded".b hs).length := by omega
          simp at hg; omega
      simp [getTrusted, h0]
  | false =>
    simp only [Enough, Bool.false_eq_true, if_false] at h
    obtain ⟨h1, h2, h3⟩ := h
    simp only [Bool.false_eq_true, if_false, trusted_value_ignores_prefix _ pre hs hops h1,
      trusted_value_ignores_prefix _ pre hs hops h2, trusted_value_ignores_prefix _ pre hs hops h3]

/-- what the wrapped application sees as client / scheme is a function of the trusted triple only -/
theorem only_trusted_used (modern : Bool) (hops : Nat) (sc : Scope)
    (hk : sc.kind = "http" ∨ sc.kind = "websocket") :
    (proxyFix modern hops sc).client =
        (match (trusted modern hops sc.headers).client with | some c => some (c, 0) | none => sc.client) ∧
    (proxyFix modern hops sc).scheme =
        (match (trusted modern hops sc.headers).scheme with | some s => s | none => sc.scheme) ∧
    (proxyFix modern hops sc).headers =
        (match (trusted modern hops sc.headers).host with
          | some h => sc.headers.filter (fun x => Bytes.lower x.1 != "host".b) ++ [("host".b, utf8OfLatin1 h)]
          | none => sc.headers) := by
  simp only [proxyFix, hk, if_true, applyTrusted]
  cases (trusted modern hops sc.headers).client <;> cases (trusted modern hops sc.headers).scheme <;>
    cases (trusted modern hops sc.headers).host <;> simp

theorem zero_hops_untouched (modern : Bool) (sc : Scope) : proxyFix modern 0 sc = sc := by
  unfold proxyFix
  split
  · cases modern <;> simp [trusted, getTrusted, applyTrusted]
  · rfl

/-- fewer values than trusted hops in every header the mode reads: the scope is handed on unchanged -/
theorem too_few_untouched (modern : Bool) (hops : Nat) (sc : Scope)
    (hf : (values "forwarded".b sc.headers).length < hops)
    (h1 : (values "x-forwarded-for".b sc.headers).length < hops)
    (h2 : (values "x-forwarded-proto".b sc.headers).length < hops)
    (h3 : (values "x-forwarded-host".b sc.headers).length < hops) :
    proxyFix modern hops sc = sc := by
  have g : ∀ name, (values name sc.headers).length < hops → getTrusted name sc.headers hops = none := by
    intro name hlt
    unfold getTrusted
    simp only [enough_cmp, decide_eq_true_eq]
    split
    · rfl
    · simp only [ge_iff_le]; split
      · omega
      · rfl
  unfold proxyFix
  split
  · cases modern <;> simp [trusted, g _ hf, g _ h1, g _ h2, g _ h3, applyTrusted]
  · rfl

theorem other_scope_untouched (modern : Bool) (hops : Nat) (sc : Scope)
    (hk : ¬ (sc.kind = "http" ∨ sc.kind = "websocket")) : proxyFix modern hops sc = sc := by
  simp [proxyFix, hk]

-- the hypothesis of `trusted_value_ignores_prefix` is sharp: with too few trusted values a prepended one IS used
example : getTrusted "x-forwarded-for".b ([("x-forwarded-for".b, "evil".b)] ++ [("x-forwarded-for".b, "proxy".b)]) 2
            = some "evil".b ∧
          getTrusted "x-forwarded-for".b [("x-forwarded-for".b, "proxy".b)] 2 = none := by decide +kernel
-- non-vacuity: two trusted hops, attacker prefix of two values in an earlier line and inline
example : getTrusted "x-forwarded-for".b
    ([("X-Forwarded-For".b, "6.6.6.6, 7.7.7.7".b)] ++ [("x-forwarded-for".b, "1.2.3.4 , 10.0.0.1".b)]) 2
      = some "1.2.3.4".b := by decide +kernel
example : Enough false 1 [("x-forwarded-for".b, "a".b), ("x-forwarded-proto".b, "https".b), ("x-forwarded-host".b, "h".b)] := by
  simp only [Enough, Bool.false_eq_true, if_false]; decide +kernel

/-! ### Dispatcher -/

private theorem dispatchFrom_some (mounts : List (List Char)) (path : List Char) :
    ∀ (k i : Nat) (p : List Char), dispatchFrom k mounts path = some (i, p) →
      ∃ m, k ≤ i ∧ mounts[i - k]? = some m ∧ m <+: path ∧
        (∀ j, j < i - k → ∀ m', mounts[j]? = some m' → ¬ m' <+: path) ∧
        p = (if path.drop m.length = [] then ['/'] else path.drop m.length) := by
  induction mounts with
  | nil => intro k i p h; simp [dispatchFrom] at h
  | cons m ms ih =>
    intro k i p h
    simp only [dispatchFrom] at h
    split at h
    · rename_i hp
      simp only [Option.some.injEq, Prod.mk.injEq] at h
      obtain ⟨rfl, rfl⟩ := h
      refine ⟨m, Nat.le_refl _, by simp, List.isPrefixOf_iff_prefix.mp hp, by simp, rfl⟩
    · rename_i hp
      obtain ⟨m', hk, hget, hpre, hfirst, hp'⟩ := ih (k + 1) i p h
      refine ⟨m', by omega, ?_, hpre, ?_, hp'⟩
      · have : i - k = (i - (k + 1)) + 1 := by omega
        rw [this]; simpa using hget
      · intro j hj m'' hm''
        cases j with
        | zero =>
          simp only [List.getElem?_cons_zero, Option.some.injEq] at hm''
          subst hm''
          intro hc; exact hp (List.isPrefixOf_iff_prefix.mpr hc)
        | succ j =>
          simp only [List.getElem?_cons_succ] at hm''
          exact hfirst j (by omega) m'' hm''

/-- **first match wins, the prefix is stripped, and the path handed on is never empty** -/
theorem dispatch_first_match (mounts : List (List Char)) (path : List Char) (i : Nat) (p : List Char)
    (h : dispatch mounts path = some (i, p)) :
    ∃ m, mounts[i]? = some m ∧ m <+: path ∧
      (∀ j, j < i → ∀ m', mounts[j]? = some m' → ¬ m' <+: path) ∧
      p ≠ [] ∧ (m ++ p = path ∨ (p = ['/'] ∧ m = path)) := by
  obtain ⟨m, _, hget, hpre, hfirst, hp⟩ := dispatchFrom_some mounts path 0 i p h
  refine ⟨m, hget, hpre, hfirst, ?_⟩
  obtain ⟨t, rfl⟩ := hpre
  rw [List.drop_left] at hp
  subst hp
  by_cases hte : t = []
  · subst hte; exact ⟨by simp, .inr ⟨by simp, by simp⟩⟩
  · rw [if_neg hte]; exact ⟨hte, .inl rfl⟩

private theorem dispatchFrom_none (mounts : List (List Char)) (path : List Char) :
    ∀ k, dispatchFrom k mounts path = none ↔ ∀ m ∈ mounts, ¬ m <+: path := by
  induction mounts with
  | nil => intro k; simp [dispatchFrom]
  | cons m ms ih =>
    intro k
    simp only [dispatchFrom, List.mem_cons, forall_eq_or_imp]
    split
    · rename_i hp; simp [List.isPrefixOf_iff_prefix.mp hp]
    · rename_i hp
      rw [ih (k + 1)]
      constructor
      · intro h; exact ⟨fun hc => hp (List.isPrefixOf_iff_prefix.mpr hc), h⟩
      · intro h; exact h.2

/-- 404 exactly when no mount prefix matches -/
theorem dispatch_404_iff (mounts : List (List Char)) (path : List Char) :
    dispatch mounts path = none ↔ ∀ m ∈ mounts, ¬ m <+: path := dispatchFrom_none mounts path 0

example : dispatch ["/api".toList, "/".toList, "/api/v2".toList] "/api/v2/x".toList = some (0, "/v2/x".toList) := by decide
example : dispatch ["/api".toList] "/api".toList = some (0, "/".toList) := by decide
example : dispatch ["/api".toList] "/other".toList = none := by decide

/-! ### Dispatcher lifespan fan-out -/

def FanOp.inRange (n : Nat) : FanOp → Prop
  | .startupComplete i => i < n
  | .shutdownComplete i => i < n
  | .other i => i < n

/-- `lifespan.startup.complete` / `shutdown.complete` go upstream only in a state in which every mount has reported -/
theorem fan_forward_only_when_all (f : Fan) (op : FanOp) (h : (f.step op).2 = true) :
    (∃ i, op = .startupComplete i ∧ (f.step op).1.startup.all id = true) ∨
    (∃ i, op = .shutdownComplete i ∧ (f.step op).1.shutdown.all id = true) := by
  cases op with
  | startupComplete i =>
    left; refine ⟨i, rfl, ?_⟩
    simp only [Fan.step] at h ⊢
    split at h <;> simp_all
  | shutdownComplete i =>
    right; refine ⟨i, rfl, ?_⟩
    simp only [Fan.step] at h ⊢
    split at h <;> simp_all
  | other i => simp [Fan.step] at h

private def startupIdx : FanOp → Option Nat
  | .startupComplete i => some i
  | _ => none

private def shutdownIdx : FanOp → Option Nat
  | .shutdownComplete i => some i
  | _ => none

/-! The two kinds of completion message are handled alike and do not touch each other's bookkeeping, so the counting
argument is made once, for one kind by itself: `chan` is its part of the state, `idx` the mount an op reports for it,
`report` what `Fan.step` does to that part. -/

private def chan : Bool → Fan → List Bool × Nat
  | true, f => (f.startup, f.fwdStartup)
  | false, f => (f.shutdown, f.fwdShutdown)

private def idx : Bool → FanOp → Option Nat
  | true => startupIdx
  | false => shutdownIdx

private def report (c : List Bool × Nat) (i : Nat) : List Bool × Nat :=
  (c.1.set i true, if (c.1.set i true).all id then c.2 + 1 else c.2)

private theorem chan_step (up : Bool) (f : Fan) (op : FanOp) :
    chan up (f.step op).1 = (idx up op).toList.foldl report (chan up f) := by
  cases up <;> cases op <;>
    simp only [Fan.step, chan, idx, startupIdx, shutdownIdx, report, Option.toList, List.foldl] <;> split <;> rfl

private theorem chan_run (up : Bool) (ops : List FanOp) : ∀ f : Fan,
    chan up (f.run ops) = (ops.filterMap (idx up)).foldl report (chan up f) := by
  induction ops with
  | nil => intro f; rfl
  | cons op ops ih =>
    intro f
    have : Fan.run f (op :: ops) = Fan.run (f.step op).1 ops := rfl
    rw [this, ih, chan_step, List.filterMap_cons]
    cases idx up op <;> rfl

private theorem all_id_iff (l : List Bool) : l.all id = true ↔ ∀ j, j < l.length → l[j]? = some true := by
  simp only [List.all_eq_true, id]
  constructor
  · intro h j hj
    rw [List.getElem?_eq_getElem hj]; simp [h _ (List.getElem_mem hj)]
  · intro h b hb
    obtain ⟨j, hj, rfl⟩ := List.getElem_of_mem hb
    have := h j hj
    rw [List.getElem?_eq_getElem hj] at this; simpa using this

/-- `seen` = the mounts that have reported so far: exactly they are marked, and the message has gone upstream at most
    once, only after all `n` had reported -/
private structure Reported (n : Nat) (seen : List Nat) (c : List Bool × Nat) : Prop where
  len : c.1.length = n
  mem : ∀ j, j < n → (c.1[j]? = some true ↔ j ∈ seen)
  le : c.2 ≤ 1
  all : c.2 = 1 → ∀ j, j < n → j ∈ seen

/-- a mount that reports for the first time: the message cannot have gone upstream yet (it is missing from `seen`), and
    goes now only if it completes the list -/
private theorem reported_step (n : Nat) (seen : List Nat) (c : List Bool × Nat) (i : Nat)
    (hI : Reported n seen c) (hi : i < n) (hnew : i ∉ seen) : Reported n (i :: seen) (report c i) := by
  obtain ⟨len, mem, le, all⟩ := hI
  have h0 : c.2 = 0 := by
    by_cases h1 : c.2 = 1
    · exact absurd (all h1 i hi) hnew
    · omega
  have hmem : ∀ j, j < n → ((c.1.set i true)[j]? = some true ↔ j ∈ i :: seen) := by
    intro j hj
    by_cases hji : j = i
    · subst hji; simp [len, hj]
    · rw [List.getElem?_set_ne (Ne.symm hji)]
      simp [mem j hj, hji]
  refine ⟨by simp [report, len], hmem, ?_, ?_⟩
  · simp only [report]; split <;> omega
  · simp only [report]
    split
    · rename_i hall
      intro _ j hj
      exact (hmem j hj).mp ((all_id_iff _).mp hall j (by rw [List.length_set, len]; exact hj))
    · intro h1; omega

private theorem reported_run (n : Nat) : ∀ (is seen : List Nat) (c : List Bool × Nat),
    Reported n seen c → (∀ i ∈ is, i < n) → (is ++ seen).Nodup →
    ∃ seen', Reported n seen' (is.foldl report c) ∧ ∀ j, j ∈ seen' ↔ j ∈ is ++ seen := by
  intro is
  induction is with
  | nil => intro seen c hI _ _; exact ⟨seen, hI, fun j => by simp⟩
  | cons i is ih =>
    intro seen c hI hr hn
    have hn' : i ∉ is ++ seen ∧ (is ++ seen).Nodup := List.nodup_cons.mp hn
    obtain ⟨seen', hI', hs⟩ := ih (i :: seen) (report c i)
      (reported_step n seen c i hI (hr i (by simp)) (fun h => hn'.1 (List.mem_append_right _ h)))
      (fun j hj => hr j (by simp [hj])) ((List.perm_middle.nodup_iff).mpr hn)
    exact ⟨seen', hI', fun j => by rw [hs j]; simp [or_left_comm]⟩

private theorem reported_init (n : Nat) (up : Bool) : Reported n [] (chan up (Fan.init n)) := by
  cases up <;>
  exact ⟨by simp [chan, Fan.init], by intro j hj; simp [chan, Fan.init, hj], by simp [chan, Fan.init],
    by simp [chan, Fan.init]⟩

/-- **fan-out**: when every mount reports each completion at most once, `startup.complete`
    (resp. `shutdown.complete`) is forwarded at most once, and when it is, every mount has reported. -/
theorem lifespan_fanout (n : Nat) (ops : List FanOp) (hr : ∀ o ∈ ops, FanOp.inRange n o)
    (hU : (ops.filterMap startupIdx).Nodup) (hD : (ops.filterMap shutdownIdx).Nodup) :
    let f := (Fan.init n).run ops
    f.fwdStartup ≤ 1 ∧ f.fwdShutdown ≤ 1 ∧
    (f.fwdStartup = 1 → ∀ j, j < n → FanOp.startupComplete j ∈ ops) ∧
    (f.fwdShutdown = 1 → ∀ j, j < n → FanOp.shutdownComplete j ∈ ops) := by
  have key : ∀ up : Bool, (ops.filterMap (idx up)).Nodup → (∀ o ∈ ops, ∀ i, idx up o = some i → i < n) →
      (chan up ((Fan.init n).run ops)).2 ≤ 1 ∧
      ((chan up ((Fan.init n).run ops)).2 = 1 → ∀ j, j < n → ∃ o ∈ ops, idx up o = some j) := by
    intro up hn hlt
    obtain ⟨seen, hI, hs⟩ := reported_run n (ops.filterMap (idx up)) [] _ (reported_init n up)
      (fun i hi => by obtain ⟨o, ho, h⟩ := List.mem_filterMap.mp hi; exact hlt o ho i h) (by simpa using hn)
    rw [chan_run]
    exact ⟨hI.le, fun h1 j hj => List.mem_filterMap.mp (by simpa using (hs j).mp (hI.all h1 j hj))⟩
  obtain ⟨u1, u2⟩ := key true hU (fun o ho i h => by cases o <;> cases h; exact hr _ ho)
  obtain ⟨d1, d2⟩ := key false hD (fun o ho i h => by cases o <;> cases h; exact hr _ ho)
  refine ⟨u1, d1, fun h j hj => ?_, fun h j hj => ?_⟩
  · obtain ⟨o, ho, e⟩ := u2 h j hj
    cases o <;> cases e; exact ho
  · obtain ⟨o, ho, e⟩ := d2 h j hj
    cases o <;> cases e; exact ho

/-- and it *is* forwarded as soon as the last mount reports -/
theorem fan_forwards_when_last (f : Fan) (i : Nat) (h : (f.startup.set i true).all id = true) :
    (f.step (.startupComplete i)).2 = true := by simp [Fan.step, h]

example : ((Fan.init 3).run [.startupComplete 2, .startupComplete 0, .other 1, .startupComplete 1]).fwdStartup = 1 := by decide
example : ((Fan.init 3).run [.startupComplete 2, .startupComplete 0]).fwdStartup = 0 := by decide

/-! ### HTTPS redirect -/

/-- the path as `urlunsplit` writes it behind a netloc (the local `p` of `Middleware.urlunsplit`): a leading `/` is supplied -/
def absPath (p : List Char) : List Char := if p ≠ [] ∧ p.take 1 ≠ ['/'] then '/' :: p else p

theorem urlunsplit_netloc (scheme netloc path query : List Char) (hs : scheme ≠ []) (hn : netloc ≠ []) :
    urlunsplit scheme netloc path query =
      scheme ++ "://".toList ++ netloc ++ absPath path ++ (if query ≠ [] then '?' :: query else []) := by
  have e : "://".toList = [':', '/', '/'] := by decide
  simp only [urlunsplit, absPath, hn, hs, e, ne_eq, not_false_eq_true, true_or, if_true]
  by_cases hq : query = [] <;> simp [hq]

/-- the path of the Location is built from the request target as sent (`raw_path`), not from its percent-decoded form:
    this is where the *extracted* choice of scope key enters the proofs -/
theorem request_path_is_raw (sc : RScope) : requestPath sc = sc.rawPath := by
  simp [requestPath, Extracted.RedirectSites.redirectPathSource]

private theorem newUrl_some (cfgHost : Option (List Char)) (sc : RScope) (host s : List Char)
    (hh : pickHost cfgHost sc = some host) (hne : host ≠ []) (hs : s ≠ []) :
    newUrl cfgHost s sc = some (s ++ "://".toList ++ host ++ absPath (sc.rootPath ++ sc.rawPath) ++
      (if sc.query ≠ [] then '?' :: sc.query else [])) := by
  simp only [newUrl, hh, Option.map_some, urlunsplit_netloc _ _ _ _ hs hne, request_path_is_raw]

/-- **cleartext HTTP is redirected to the same host, path and query under https** -/
theorem redirect_http (cfgHost : Option (List Char)) (sc : RScope) (host : List Char)
    (hk : sc.kind = "http") (hsch : sc.scheme = "http")
    (hh : pickHost cfgHost sc = some host) (hne : host ≠ []) :
    redirect cfgHost sc = .httpRedirect
      ("https://".toList ++ host ++ absPath (sc.rootPath ++ sc.rawPath) ++ (if sc.query ≠ [] then '?' :: sc.query else [])) := by
  unfold redirect
  rw [if_pos ⟨hk, hsch⟩, newUrl_some cfgHost sc host _ hh hne (by decide)]
  rfl

/-- **cleartext WebSocket is redirected under wss (https on HTTP/2), or refused when the extension is missing** -/
theorem redirect_ws (cfgHost : Option (List Char)) (sc : RScope) (host : List Char)
    (hk : sc.kind = "websocket") (hsch : sc.scheme = "ws")
    (hh : pickHost cfgHost sc = some host) (hne : host ≠ []) :
    redirect cfgHost sc =
      if sc.hasWsResponseExt then
        .wsRedirect ((if sc.httpVersion = "2" then "https://".toList else "wss://".toList) ++ host ++
          absPath (sc.rootPath ++ sc.rawPath) ++ (if sc.query ≠ [] then '?' :: sc.query else []))
      else .wsClose := by
  have hk' : ¬ (sc.kind = "http" ∧ sc.scheme = "http") := by rw [hk]; exact fun h => absurd h.1 (by decide)
  unfold redirect
  rw [if_neg hk', if_pos ⟨hk, hsch⟩]
  by_cases he : sc.hasWsResponseExt = true
  · rw [if_pos he, if_pos he]
    by_cases h2 : sc.httpVersion = "2"
    · rw [if_pos h2, if_pos h2, newUrl_some cfgHost sc host _ hh hne (by decide)]; rfl
    · rw [if_neg h2, if_neg h2, newUrl_some cfgHost sc host _ hh hne (by decide)]; rfl
  · rw [if_neg he, if_neg he]

/-- **every scope that is neither cleartext HTTP nor cleartext WebSocket reaches the wrapped application unchanged** -/
theorem secure_passthrough (cfgHost : Option (List Char)) (sc : RScope)
    (h1 : ¬ (sc.kind = "http" ∧ sc.scheme = "http")) (h2 : ¬ (sc.kind = "websocket" ∧ sc.scheme = "ws")) :
    redirect cfgHost sc = .passThrough := by
  unfold redirect; rw [if_neg h1, if_neg h2]

private def exScope : RScope :=
  { kind := "http", scheme := "http", httpVersion := "1.1", hasWsResponseExt := false,
    hostHeader := some "a.example".toList, rootPath := "/r".toList, rawPath := "/p%20q".toList, path := "/p q".toList,
    query := "x=1".toList }
example : redirect none exScope = .httpRedirect "https://a.example/r/p%20q?x=1".toList := by decide +kernel

/-- **the redirect names the same resource**: whatever the percent-decoded `path` of the scope is, it has no influence on
    the action — in particular an escaped `?`, `#`, `/`, `%`, space or CR LF in the target is handed back as it was sent -/
theorem redirect_ignores_decoded_path (cfgHost : Option (List Char)) (sc : RScope) (p : List Char) :
    redirect cfgHost { sc with path := p } = redirect cfgHost sc := by
  have hu : ∀ s, newUrl cfgHost s { sc with path := p } = newUrl cfgHost s sc := by
    intro s; simp only [newUrl, request_path_is_raw, pickHost]
  simp only [redirect, hu]

example : redirect none { exScope with rawPath := "/report%3F2024.pdf".toList, path := "/report?2024.pdf".toList, query := [] } =
    .httpRedirect "https://a.example/r/report%3F2024.pdf".toList := by decide +kernel

end HC.Props.C20
