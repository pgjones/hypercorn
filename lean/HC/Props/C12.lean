import HC.Stream.HttpLemmas
import HC.Stream.WsLemmas
import HC.Extracted.AppExit
import HC.Props.C11
/-!
# C12 — invalid application messages are rejected without corrupting the wire

Models: `HC/Stream/Http.lean` (`HTTPStream.app_send`), `HC/Stream/Ws.lean` (`WSStream.app_send`).  Lemmas: the transition tables of
both in `HC/Stream/HttpLemmas.lean`, `WsLemmas.lean` (`sent_appSend`, `raises_quiet`, `Sent.moves`); what `Handshake.accept`
renders and refuses is C11's (`accept_rendered`, `accept_ok_iff`).
All statements are for arbitrary states / arbitrary message lists; nothing is enumerated.
-/
namespace HC.Props.C12
open HC HC.Stream HC.Extracted

/-! ### header validation: no CR / LF / NUL ever leaves `build_and_validate_headers` -/

theorem validateName_ok (n : HV) (v : Bytes) (h : validateName n = .ok v) :
    ∃ b, n = .bytes b ∧ validatePartBytes b = .ok v ∧ nameRefused v = false := by
  cases n with
  | bytes b => obtain ⟨h1, h2⟩ := validateNameBytes_ok h; exact ⟨b, rfl, h1, h2⟩
  | str s => cases h
  | int n => cases h
  | none => cases h

theorem validateName_clean (n : HV) (v : Bytes) (h : validateName n = .ok v) : hasCtl v = false := by
  obtain ⟨b, _, hp, _⟩ := validateName_ok n v h
  exact (validatePartBytes_ok hp).2

theorem validateValue_clean (x : HV) (v : Bytes) (h : validateValue x = .ok v) : hasCtl v = false := by
  cases x with
  | bytes b => exact (validatePartBytes_ok h).2
  | str s => cases h
  | int n =>
    simp only [validateValue] at h
    split at h
    · cases h
    · exact (validatePartBytes_ok h).2
  | none => cases h

def cleanHeaders (hs : Headers) : Prop := ∀ h ∈ hs, hasCtl h.1 = false ∧ hasCtl h.2 = false

theorem validateHeaders_cons_ok {n v : HV} {rest : List (HV × HV)} {vh : Headers} :
    validateHeaders ((n, v) :: rest) = .ok vh ↔
      ∃ n' v' r, validateName n = .ok n' ∧ validateValue v = .ok v' ∧ validateHeaders rest = .ok r ∧ vh = (n', v') :: r := by
  simp only [validateHeaders, Except.bind_eq_ok, pure, Except.pure, Except.ok.injEq]
  constructor
  · rintro ⟨a, ha, b, hb, c, hc, rfl⟩; exact ⟨a, b, c, ha, hb, hc, rfl⟩
  · rintro ⟨a, b, c, ha, hb, hc, rfl⟩; exact ⟨a, ha, b, hb, c, hc, rfl⟩

/-- every validated header is the validated name and the validated value of a header the application gave -/
theorem validateHeaders_mem : ∀ (hs : List (HV × HV)) (vh : Headers), validateHeaders hs = .ok vh →
    ∀ x ∈ vh, ∃ n v, validateName n = .ok x.1 ∧ validateValue v = .ok x.2 := by
  intro hs
  induction hs with
  | nil => intro vh h; cases h; simp
  | cons p rest ih =>
    intro vh h x hx
    obtain ⟨n', v', r, hn, hv, hr, rfl⟩ := validateHeaders_cons_ok.mp h
    rcases List.mem_cons.mp hx with rfl | hx
    · exact ⟨_, _, hn, hv⟩
    · exact ih r hr x hx

/-- **no CR, LF or NUL in application-supplied header names or values survives validation**, and a
    pseudo-header name, a non-bytes name or a non-bytes value makes the whole list invalid -/
theorem no_ctl_in_headers : ∀ (hs : List (HV × HV)) (vh : Headers), validateHeaders hs = .ok vh → cleanHeaders vh := by
  intro hs vh h x hx
  obtain ⟨n, v, hn, hv⟩ := validateHeaders_mem hs vh h x hx
  exact ⟨validateName_clean _ _ hn, validateValue_clean _ _ hv⟩

/-- a validated header list never contains an empty name or a pseudo header (a name starting with `:`): the test is
    made on the name as it is sent, i.e. after stripping -/
def noPseudo (hs : Headers) : Prop := ∀ h ∈ hs, nameRefused h.1 = false

theorem no_pseudo_in_headers (hs : List (HV × HV)) (vh : Headers) (h : validateHeaders hs = .ok vh) : noPseudo vh := by
  intro x hx
  obtain ⟨n, _, hn, _⟩ := validateHeaders_mem hs vh h x hx
  obtain ⟨_, _, _, hr⟩ := validateName_ok _ _ hn
  exact hr

/-- whatever whitespace hides it: a name whose stripped form is empty, starts with `:` or is not a token makes the list invalid -/
theorem pseudo_header_rejected (b : Bytes) (v : HV) (rest : List (HV × HV)) (h : nameRefused (Bytes.strip b) = true) :
    ∃ e, validateHeaders ((.bytes b, v) :: rest) = .error e := by
  simp only [validateHeaders, validateName, validateNameBytes, validatePartBytes, bind, Except.bind]
  by_cases hc : hasCtl (Bytes.strip b) = true <;> simp [hc, h]

/-- every name that leaves validation is a token (so it can be framed on every protocol) -/
theorem validated_names_are_tokens (hs : List (HV × HV)) (vh : Headers) (h : validateHeaders hs = .ok vh) :
    ∀ x ∈ vh, x.1 ≠ [] ∧ x.1.all isTchar = true := by
  intro x hx
  have hp := no_pseudo_in_headers hs vh h x hx
  simp only [nameRefused, Bool.or_eq_false_iff, Bool.not_eq_false'] at hp
  refine ⟨?_, hp.2⟩
  intro he
  rw [he] at hp
  simp at hp

example : validateHeaders [(.bytes " :status".b, .bytes "200".b)] = .error .valueError := by decide +kernel
example : validateHeaders [(.bytes "  ".b, .bytes "v".b)] = .error .valueError := by decide +kernel
example : validateHeaders [(.bytes ":authority".b, .bytes "x".b)] = .error .valueError := by decide +kernel
example : validateHeaders [(.bytes "bad name".b, .bytes "x".b)] = .error .valueError := by decide +kernel
example : validateHeaders [(.bytes "x:y".b, .bytes "x".b)] = .error .valueError := by decide +kernel
example : validateHeaders [(.bytes "X-Ok_1.2~".b, .bytes "x".b)] = .ok [("X-Ok_1.2~".b, "x".b)] := by decide +kernel

theorem str_name_rejected (s : String) (v : HV) (rest : List (HV × HV)) :
    ∃ e, validateHeaders ((.str s, v) :: rest) = .error e := by
  simp [validateHeaders, validateName, bind, Except.bind]

theorem str_value_rejected (n : HV) (s : String) (rest : List (HV × HV)) :
    ∃ e, validateHeaders ((n, .str s) :: rest) = .error e := by
  cases hn : validateName n <;> simp [validateHeaders, validateValue, hn, bind, Except.bind]

example : validateHeaders [(.bytes "x".b, .bytes "a\r\nset-cookie: x".b)] = .error .valueError := by decide +kernel
example : validateHeaders [(.bytes "n".b, .int 3)] = .error .valueError := by decide +kernel
example : validateHeaders [(.bytes " X-A ".b, .bytes " 1 ".b)] = .ok [("X-A".b, "1".b)] := by decide +kernel

/-! ### HTTP: the reference automaton, and rejection as a no-op -/

/-- reference automaton of the ASGI HTTP send side (what the specification allows in which state) -/
def httpAllowed (s : Http.S) : Http.Msg → Bool
  | .start .. => s.st == .request
  | .body .. => s.st == .response
  | .trailers .. => Http.inVersions s.version Consts.http_TRAILERS_VERSIONS && s.st == .trailers
  | .push .. => Http.inVersions s.version Consts.http_PUSH_VERSIONS && s.st != .closed
  | .earlyHint .. => Http.inVersions s.version Consts.http_EARLY_HINTS_VERSIONS && s.st == .request
  | .other => false

def isTrailersBeforeStart (s : Http.S) : Http.Msg → Bool
  | .trailers .. => Http.inVersions s.version Consts.http_TRAILERS_VERSIONS && s.st == .request
  | _ => false

/-- **a message the automaton forbids in the current state raises `UnexpectedMessageError` and changes nothing** —
    a body before the start, a second start, anything after completion, an unknown type, HTTP/2-only messages on HTTP/1 -/
theorem http_invalid_state_rejected (s : Http.S) (m : Http.Msg)
    (h : httpAllowed s m = false) (hx : isTrailersBeforeStart s m = false) :
    Http.appSend s (some m) = (s, [], some .unexpectedMessage) := by
  -- in every branch the guard of `app_send` is the test of the automaton
  cases m <;>
    simp only [httpAllowed, isTrailersBeforeStart, Bool.and_eq_false_imp, beq_eq_false_iff_ne, bne_eq_false_iff_eq, ne_eq] at h hx <;>
    simp only [Http.appSend]
  case start | body => exact if_neg h
  case trailers => rw [if_neg (fun c => hx c.1 c.2), if_neg (fun c => h c.1 c.2)]
  case push => exact if_neg (fun c => c.2 (h c.1))
  case earlyHint => exact if_neg (fun c => h c.1 c.2)

/-- the one place where the code is more liberal than the reference automaton (a trailers-only response on HTTP/2+) -/
theorem http_trailers_before_start_accepted_as_is :
    ∃ s m, httpAllowed s m = false ∧ (Http.appSend s (some m)).2.2 = none :=
  ⟨{ method := "GET", version := "2", reqHeaders := [("te".b, "trailers".b)] }, .trailers (some []) true, by decide, by decide⟩

/-- in RESPONSE / TRAILERS a response start has been recorded -/
def HttpInv (s : Http.S) : Prop := (s.st = .response ∨ s.st = .trailers) → s.response.isSome = true

theorem http_inv_init (method version : String) (hs : Headers) :
    HttpInv { method := method, version := version, reqHeaders := hs } := by
  intro h; simp at h

theorem http_inv_step (s : Http.S) (m : Option Http.Msg) (hI : HttpInv s) : HttpInv (Http.appSend s m).1 := by
  -- the rows that enter RESPONSE / TRAILERS assign `self.response` (`start`, `trailersFirst`) or come from RESPONSE (`bodyThenTrailers`)
  have h := Http.sent_appSend s m
  generalize Http.appSend s m = o at h ⊢
  cases h <;> simp_all [HttpInv]

/-- **a rejected message is a no-op**: whenever `send()` raises, nothing was handed to the protocol and the ASGI state
    did not move (trailers-before-start excluded, see above) -/
theorem http_reject_is_noop (s : Http.S) (m : Http.Msg) (e : PyErr) (hI : HttpInv s)
    (hx : isTrailersBeforeStart s m = false) (he : (Http.appSend s (some m)).2.2 = some e) :
    (Http.appSend s (some m)).2.1 = [] ∧ (Http.appSend s (some m)).1.st = s.st ∧
    (Http.appSend s (some m)).1.closed = s.closed := by
  have h := Http.sent_appSend s (some m)
  generalize Http.appSend s (some m) = o at h he ⊢
  obtain ⟨s', evs, err⟩ := o
  cases he
  -- ending the response without `self.response` is excluded by `hI`, or is trailers before the start
  obtain ⟨h1, h2, h3, _⟩ := h.raises_quiet (by
    rintro ⟨hr, ⟨hs, hm⟩, hst | ⟨hst, hv⟩⟩
    · simpa [hr] using hI (.inr hst)
    · cases hm; simp [isTrailersBeforeStart, hst, hv] at hx)
  exact ⟨h1, h2, h3⟩

/-! ### HTTP: one final head, one end, nothing after the end — for arbitrary message sequences -/

def countFinalHeads : List Http.Ev → Nat
  | [] => 0
  | .response st _ :: r => (if st ≥ 200 then 1 else 0) + countFinalHeads r
  | _ :: r => countFinalHeads r

def countEnd : List Http.Ev → Nat
  | [] => 0
  | .endBody :: r => 1 + countEnd r
  | _ :: r => countEnd r

/-- response heads of ANY status (interim or final) handed to the protocol for the request -/
def countHeads : List Http.Ev → Nat
  | [] => 0
  | .response _ _ :: r => 1 + countHeads r
  | _ :: r => countHeads r

@[simp] private theorem countEnd_append (a b : List Http.Ev) : countEnd (a ++ b) = countEnd a + countEnd b := by
  induction a with
  | nil => simp [countEnd]
  | cons x xs ih => cases x <;> simp [countEnd, ih] <;> omega

@[simp] private theorem countHeads_append (a b : List Http.Ev) : countHeads (a ++ b) = countHeads a + countHeads b := by
  induction a with
  | nil => simp [countHeads]
  | cons x xs ih => cases x <;> simp [countHeads, ih] <;> omega

private theorem countFinalHeads_le (l : List Http.Ev) : countFinalHeads l ≤ countHeads l := by
  induction l with
  | nil => exact Nat.le_refl _
  | cons x xs ih => cases x <;> simp only [countFinalHeads, countHeads] <;> (try split) <;> omega

/-- what a stream may still hand over (the budgets of `feed_budget`): one end of a body unless it is CLOSED … -/
def budgetEnd (s : Http.S) : Nat := if s.st = .closed then 0 else 1
/-- … one response head while it is in REQUEST -/
def budgetHead (s : Http.S) : Nat := if s.st = .request then 1 else 0

/-- `EndBody` is handed over only by the rows that move the stream to CLOSED (`exit500`, `bodyEnd`, `trailersFirstEnd`, `trailersEnd`,
    `droppedTrailers*`) -/
theorem step_end (s : Http.S) (m : Option Http.Msg) :
    countEnd (Http.appSend s m).2.1 + budgetEnd (Http.appSend s m).1 ≤ budgetEnd s := by
  have h := Http.sent_appSend s m
  generalize Http.appSend s m = o at h ⊢
  cases h <;> (try cases ‹Http.BodyEvs _›) <;> (try cases ‹Http.Closing ..›) <;> simp_all [budgetEnd, countEnd]

/-- `Response` is handed over only by the rows that take the stream out of REQUEST (`exit500`, `start`, `trailersFirst*`) -/
theorem step_heads (s : Http.S) (m : Option Http.Msg) :
    countHeads (Http.appSend s m).2.1 + budgetHead (Http.appSend s m).1 ≤ budgetHead s := by
  have h := Http.sent_appSend s m
  generalize Http.appSend s m = o at h ⊢
  cases h <;> (try cases ‹Http.BodyEvs _›) <;> (try cases ‹Http.Closing ..›) <;> simp_all [budgetHead, countHeads]

/-- a count of events that every `app_send` pays for out of a budget of the state is bounded, over any message list, by the
    budget of the state the list starts in -/
private theorem feed_budget (count : List Http.Ev → Nat) (budget : Http.S → Nat) (hnil : count [] = 0)
    (happ : ∀ a b, count (a ++ b) = count a + count b)
    (hstep : ∀ s m, count (Http.appSend s m).2.1 + budget (Http.appSend s m).1 ≤ budget s) (ms : List (Option Http.Msg)) :
    ∀ s, count (Http.feed s ms).2 + budget (Http.feed s ms).1 ≤ budget s := by
  induction ms with
  | nil => intro s; simp [Http.feed, hnil]
  | cons m ms ih =>
    intro s
    have h1 := hstep s m
    have h2 := ih (Http.appSend s m).1
    simp only [Http.feed, happ]; omega

/-- **end-of-response is signalled at most once**, whatever the application sends -/
theorem end_once (ms : List (Option Http.Msg)) : ∀ s, countEnd (Http.feed s ms).2 + budgetEnd (Http.feed s ms).1 ≤ budgetEnd s :=
  feed_budget countEnd budgetEnd rfl countEnd_append step_end ms

/-! ### any accepted start is THE response start - interim statuses included -/

/-- **an accepted `http.response.start` moves the request from REQUEST to RESPONSE whatever its status** - 100, 102, 103,
    199 exactly as 200 or 404: the successor state does not depend on the status -/
theorem accepted_start_moves_on (s : Http.S) (status : Option Nat) (hs : Option (List (HV × HV))) (tr : Bool)
    (h : (Http.appSend s (some (.start status hs tr))).2.2 = none) :
    s.st = .request ∧ (Http.appSend s (some (.start status hs tr))).1.st = .response := by
  simp only [Http.appSend] at h ⊢
  (repeat' split at h) <;> simp_all

/-- the statement order of the source agrees: the `http.response.start` branch of `HTTPStream.app_send`, as the extractor
    reads it off the source on every run (a conditional statement in that branch is not a recognised shape), assigns
    RESPONSE after the head was handed over - unconditionally, there is no status in sight -/
theorem source_start_always_advances :
    AppExit.runBranch HC.Extracted.AppExit.httpStartBranch none {} = { st := .response, responseSent := true } := by decide

theorem request_not_reentered (s : Http.S) (m : Option Http.Msg) (h : s.st ≠ .request) : (Http.appSend s m).1.st ≠ .request := by
  -- no row assigns REQUEST
  have hs := Http.sent_appSend s m
  generalize Http.appSend s m = o at hs ⊢
  cases hs <;> first | exact h | exact nofun

theorem request_not_reentered_feed (ms : List (Option Http.Msg)) : ∀ s : Http.S, s.st ≠ .request → (Http.feed s ms).1.st ≠ .request := by
  induction ms with
  | nil => intro s h; simpa [Http.feed] using h
  | cons m ms ih => intro s h; simp only [Http.feed]; exact ih _ (request_not_reentered s m h)

/-- **a second response start raises and hands nothing to the protocol** - whatever the status of the first start (an
    interim one included) and whatever the application sent in between -/
theorem second_start_rejected (s : Http.S) (status : Option Nat) (hs : Option (List (HV × HV))) (tr : Bool)
    (hacc : (Http.appSend s (some (.start status hs tr))).2.2 = none) (ms : List (Option Http.Msg))
    (status' : Option Nat) (hs' : Option (List (HV × HV))) (tr' : Bool) :
    Http.appSend (Http.feed (Http.appSend s (some (.start status hs tr))).1 ms).1 (some (.start status' hs' tr')) =
      ((Http.feed (Http.appSend s (some (.start status hs tr))).1 ms).1, [], some .unexpectedMessage) := by
  have h1 : (Http.appSend s (some (.start status hs tr))).1.st ≠ .request := by
    rw [(accepted_start_moves_on s status hs tr hacc).2]; decide
  have h2 := request_not_reentered_feed ms _ h1
  generalize (Http.feed (Http.appSend s (some (.start status hs tr))).1 ms).1 = s' at h2 ⊢
  simp [Http.appSend, h2]

/-- **at most one `Response` event per request, counting interim statuses too**: a start with status 102 uses up the
    request's one response start just as a start with status 200 does (early hints are `InformationalResponse` events) -/
theorem one_response_start (ms : List (Option Http.Msg)) :
    ∀ s, countHeads (Http.feed s ms).2 + budgetHead (Http.feed s ms).1 ≤ budgetHead s :=
  feed_budget countHeads budgetHead rfl countHeads_append step_heads ms

/-- **at most one final response head per request**, whatever the application sends -/
theorem one_final_head (ms : List (Option Http.Msg)) :
    ∀ s, countFinalHeads (Http.feed s ms).2 + budgetHead (Http.feed s ms).1 ≤ budgetHead s :=
  fun s => Nat.le_trans (Nat.add_le_add_right (countFinalHeads_le _) _) (one_response_start ms s)

example : (Http.feed { method := "GET", version := "2" }
    [some (.start (some 102) (some []) false), some (.start (some 200) (some []) false), some (.body none false)]).2 =
    [.response 102 [], .endBody, .access (some 102), .streamClosed] := by decide +kernel

/-- **nothing follows the end of the response** but the stream-closed notification of the exiting application -/
theorem nothing_after_end (ms : List (Option Http.Msg)) :
    ∀ s, s.st = .closed → (Http.feed s ms).1.st = .closed ∧ ∀ ev ∈ (Http.feed s ms).2, ev = .streamClosed := by
  induction ms with
  | nil => intro s h; simp [Http.feed, h]
  | cons m ms ih =>
    intro s h
    have hstep : (Http.appSend s m).1.st = .closed ∧ ∀ ev ∈ (Http.appSend s m).2.1, ev = .streamClosed := by
      -- in CLOSED the rows are `inert`, `noop` and `exit`
      have hs := Http.sent_appSend s m
      generalize Http.appSend s m = o at hs ⊢
      cases hs <;> simp_all
    simp only [Http.feed]
    obtain ⟨h1, h2⟩ := ih _ hstep.1
    refine ⟨h1, ?_⟩
    intro ev hev
    rcases List.mem_append.mp hev with hev | hev
    · exact hstep.2 ev hev
    · exact h2 ev hev

/-- every header list handed to the protocol by `app_send` is free of CR / LF / NUL
    (the request's own `host` values copied into a push promise come from the client, not the application) -/
def evClean : Http.Ev → Prop
  | .response _ hs => cleanHeaders hs
  | .info _ hs => cleanHeaders hs
  | .trailers hs => cleanHeaders hs
  | _ => True

private theorem c500 : cleanHeaders Http.h500 := by
  unfold cleanHeaders; decide +kernel

private theorem validateLinks_clean : ∀ (l : List HV) (r : List Bytes), validateLinks l = .ok r → ∀ x ∈ r, hasCtl x = false := by
  intro l
  induction l with
  | nil => intro r hr x hx; cases hr; cases hx
  | cons a t ih =>
    intro r hr x hx
    simp only [validateLinks, Except.bind_eq_ok, pure, Except.pure, Except.ok.injEq] at hr
    obtain ⟨a', ha, t', ht, rfl⟩ := hr
    rcases List.mem_cons.mp hx with rfl | hx
    · exact validateValue_clean _ _ ha
    · exact ih t' ht x hx

theorem http_events_clean (s : Http.S) (m : Option Http.Msg) : ∀ ev ∈ (Http.appSend s m).2.1, evClean ev := by
  have h := Http.sent_appSend s m
  generalize Http.appSend s m = o at h ⊢
  -- one `evClean` per event handed over; it is `True` by definition unless the event carries headers
  cases h <;> (try cases ‹Http.BodyEvs _›) <;> (try cases ‹Http.Closing ..›) <;>
    simp only [List.forall_mem_cons, List.not_mem_nil, false_imp_iff, implies_true, and_true, List.cons_append, List.nil_append] <;>
    repeat' constructor
  -- left: the headers of the early hint (the name `link` and the validated values), of the 500, and validated header lists
  case hint hl =>
    intro x hx
    obtain ⟨v, hv, rfl⟩ := List.mem_map.mp hx
    exact ⟨by show hasCtl "link".b = false; decide, validateLinks_clean _ _ hl v hv⟩
  case exit500 => exact c500
  all_goals exact no_ctl_in_headers _ _ ‹_›

/-! ### WebSocket -/

/-- **websocket.send before accept, accept after accept, anything after completion, unknown types: rejected, no effect** -/
theorem ws_invalid_state_rejected (token : Bytes → Bytes) (ext : Option Bytes) (s : Ws.S) (m : Ws.Msg)
    (hc : s.closed = false) (h : Ws.expected s m = false) :
    Ws.appSend token ext s (some m) = (s, [], some .unexpectedMessage) := by
  cases m <;> simp_all [Ws.expected, Ws.appSend]

/-- after completion (CLOSED / HTTPCLOSED) every message is rejected -/
theorem ws_after_completion_rejected (token : Bytes → Bytes) (ext : Option Bytes) (s : Ws.S) (m : Ws.Msg)
    (hc : s.closed = false) (h : s.st = .closed ∨ s.st = .httpClosed) :
    Ws.appSend token ext s (some m) = (s, [], some .unexpectedMessage) := by
  apply ws_invalid_state_rejected token ext s m hc
  rcases h with h | h <;> cases m <;> simp [Ws.expected, h]

/-- CONNECTED / CLOSED imply that a wsproto connection exists -/
def WsInv (s : Ws.S) : Prop := (s.st = .connected ∨ s.st = .closed) → s.conn.isSome = true

theorem ws_inv_step (token : Bytes → Bytes) (ext : Option Bytes) (s : Ws.S) (m : Option Ws.Msg) (hI : WsInv s) :
    WsInv (Ws.appSend token ext s m).1 := by
  have h := Ws.sent_appSend token ext s m
  generalize Ws.appSend token ext s m = o at h ⊢
  obtain ⟨s', evs, err⟩ := o
  -- CONNECTED is entered by `accept`, which sets `conn`; CLOSED from CONNECTED, and a connection object stays
  obtain ⟨_, _, ⟨_, _, _, h4⟩ | ⟨_, hconn, _, hcon, hclo, _⟩⟩ := h.moves
  · exact fun _ => by simp [h4]
  · exact fun h' => hconn (hI (h'.elim (fun h => .inl (hcon h)) hclo))

/-- **a rejected WebSocket message is a no-op**: if `send()` raises, nothing was emitted and the state did not move -/
theorem ws_reject_is_noop (token : Bytes → Bytes) (ext : Option Bytes) (s : Ws.S) (m : Ws.Msg) (e : PyErr)
    (hI : WsInv s) (he : (Ws.appSend token ext s (some m)).2.2 = some e) :
    (Ws.appSend token ext s (some m)).2.1 = [] ∧ (Ws.appSend token ext s (some m)).1.st = s.st := by
  have h := Ws.sent_appSend token ext s (some m)
  generalize Ws.appSend token ext s (some m) = o at h he ⊢
  obtain ⟨s', evs, err⟩ := o
  cases he
  obtain ⟨h1, rfl⟩ := h.raises_quiet
  exact ⟨h1, rfl⟩

private theorem validateExtra_clean : ∀ (l r : Headers), Ws.validateExtra l = .ok r →
    r.length = l.length ∧ cleanHeaders r ∧ noPseudo r ∧ ∀ h ∈ r, h.1 ≠ "sec-websocket-protocol".b := by
  intro l
  induction l with
  | nil =>
    intro r hr; cases hr
    refine ⟨rfl, ?_, ?_, ?_⟩ <;> (intro x hx; cases hx)
  | cons a t ih =>
    intro r hr
    obtain ⟨n, v, t', hn, hproto, hv, ht, rfl⟩ := Ws.validateExtra_cons_ok.mp hr
    obtain ⟨hpart, hnr⟩ := validateNameBytes_ok hn
    obtain ⟨hl, hc, hp, hs⟩ := ih t' ht
    refine ⟨by simp [hl], ?_, ?_, ?_⟩ <;> intro x hx <;> rcases List.mem_cons.mp hx with rfl | hx
    · exact ⟨(validatePartBytes_ok hpart).2, (validatePartBytes_ok hv).2⟩
    · exact hc x hx
    · exact hnr
    · exact hp x hx
    · exact hproto
    · exact hs x hx

/-- the extra headers an application passes to `websocket.accept` are rendered (after the server's own handshake
    headers) free of CR / LF / NUL, none of them is empty, a pseudo header or a second `sec-websocket-protocol` (judged on
    the name as it is sent, i.e. stripped) - or the accept is refused -/
theorem ws_accept_extra_clean (h : Ws.Handshake) (token : Bytes → Bytes) (ext : Option Bytes) (sp : Option Bytes)
    (extra : Headers) (st : Nat) (hs : Headers) (hok : h.accept token ext sp extra = .ok (st, hs)) :
    ∃ pre suf, hs = pre ++ suf ∧ suf.length = extra.length ∧ cleanHeaders suf ∧ noPseudo suf ∧
      ∀ x ∈ suf, x.1 ≠ "sec-websocket-protocol".b := by
  obtain ⟨hsp, vextra, hx⟩ := (C11.accept_ok_iff h token ext sp extra).mp ⟨_, hok⟩
  rw [C11.accept_rendered h token ext sp extra vextra hsp hx] at hok
  cases hok
  obtain ⟨hl, hc, hp, hs'⟩ := validateExtra_clean extra vextra hx
  exact ⟨_, vextra, rfl, hl, hc, hp, hs'⟩

/-! ### the subprotocol an application names in `websocket.accept`

It becomes the value of `sec-websocket-protocol` *without* passing `validate_header_part`; what keeps CR / LF / NUL (and any
name the client did not ask for) off the wire is the guard of `Handshake.accept` alone.  The guard is regenerated from the
source (`HC/Extracted/WsGuards.lean`, `subprotocolRefused`) and proved here to be the model's. -/

/-- **the source's guard refuses exactly what the client did not offer** — no `Sec-WebSocket-Protocol` header at all
    (`None`), or a list that does not contain the application's choice -/
theorem ws_subprotocol_guard (offered : Option (List Bytes)) (p : Bytes) :
    WsGuards.subprotocolRefused offered p = true ↔ ¬ ∃ l, offered = some l ∧ p ∈ l := by
  cases offered with
  | none => simp [WsGuards.subprotocolRefused]
  | some l => by_cases hm : p ∈ l <;> simp [WsGuards.subprotocolRefused, hm]

/-- the model's `Handshake.accept` takes the same decision as the source's guard, for every handshake (offering
    subprotocols or not) and every choice of the application -/
theorem ws_accept_guard_is_source (h : Ws.Handshake) (token : Bytes → Bytes) (ext : Option Bytes) (p : Bytes) :
    (∃ r, h.accept token ext (some p) [] = .ok r) ↔ WsGuards.subprotocolRefused h.subprotocols p = false := by
  rw [C11.accept_ok_iff]
  constructor
  · intro ⟨hsp, _⟩
    cases hr : WsGuards.subprotocolRefused h.subprotocols p
    · rfl
    · exact absurd hsp ((ws_subprotocol_guard _ _).mp hr)
  · intro hr
    refine ⟨Classical.byContradiction fun hn => ?_, [], rfl⟩
    rw [(ws_subprotocol_guard _ _).mpr hn] at hr
    cases hr

/-- **an accepted `websocket.accept` names only a subprotocol the client offered**, and renders it first: a name the
    client did not offer — in particular any name when the handshake carried no `Sec-WebSocket-Protocol` header — is
    refused before anything is produced -/
theorem ws_accept_subprotocol_offered (h : Ws.Handshake) (token : Bytes → Bytes) (ext : Option Bytes) (p : Bytes)
    (extra : Headers) (st : Nat) (hs : Headers) (hok : h.accept token ext (some p) extra = .ok (st, hs)) :
    (∃ l, h.subprotocols = some l ∧ p ∈ l) ∧ ∃ rest, hs = ("sec-websocket-protocol".b, p) :: rest := by
  obtain ⟨hsp, vextra, hx⟩ := (C11.accept_ok_iff h token ext (some p) extra).mp ⟨_, hok⟩
  rw [C11.accept_rendered h token ext (some p) extra vextra hsp hx] at hok
  cases hok
  exact ⟨hsp, _, rfl⟩

/-- hence **no CR, LF or NUL of the application's subprotocol reaches the response head**: the value that is sent is one
    of the tokens of the client's own (already framed) `Sec-WebSocket-Protocol` header -/
theorem ws_accept_subprotocol_clean (h : Ws.Handshake) (token : Bytes → Bytes) (ext : Option Bytes) (p : Bytes)
    (extra : Headers) (st : Nat) (hs : Headers)
    (hreq : ∀ l, h.subprotocols = some l → ∀ t ∈ l, hasCtl t = false)
    (hok : h.accept token ext (some p) extra = .ok (st, hs)) : hasCtl p = false := by
  obtain ⟨⟨l, hl, hm⟩, _⟩ := ws_accept_subprotocol_offered h token ext p extra st hs hok
  exact hreq l hl p hm

example : (Ws.Handshake.accept { version := "2" } (fun _ => []) none (some "chat\r\nset-cookie: x".b) []) = .error .exception ∧
    (Ws.Handshake.accept { version := "2", subprotocols := some ["chat".b] } (fun _ => []) none (some "chat".b) []) =
      .ok (200, [("sec-websocket-protocol".b, "chat".b)]) := ⟨by decide +kernel, by decide +kernel⟩

/-! ### HTTP/1: early hints and pushes do not exist

`H11Protocol.stream_send` has a branch `elif isinstance(event, InformationalResponse): pass  # Ignore for HTTP/1`.  No message of
an application can take an HTTP/1 stream there: the version sets read off the source (`Consts.http_EARLY_HINTS_VERSIONS`,
`Consts.http_PUSH_VERSIONS`) hold neither "1.0" nor "1.1", so the message is refused with nothing handed over.  (The harness
hands the event to the real protocol object directly to see that the branch writes nothing: C12.py, family `wire`.) -/

/-- the HTTP versions an HTTP/1 connection hands to its stream (`H11Protocol` passes h11's `http_version` on) -/
def Http1Version (v : String) : Prop := v = "1.0" ∨ v = "1.1"

theorem http1_not_in_h2_only_sets (v : String) (hv : Http1Version v) :
    Http.inVersions v Consts.http_EARLY_HINTS_VERSIONS = false ∧ Http.inVersions v Consts.http_PUSH_VERSIONS = false := by
  rcases hv with rfl | rfl <;> decide

theorem early_hint_http1_rejected (s : Http.S) (links : Option (List HV)) (hv : Http1Version s.version) :
    Http.appSend s (some (.earlyHint links)) = (s, [], some .unexpectedMessage) := by
  have h := (http1_not_in_h2_only_sets s.version hv).1
  simp [Http.appSend, h]

theorem push_http1_rejected (s : Http.S) (path : Option HV) (headers : Option (List (HV × HV))) (hv : Http1Version s.version) :
    Http.appSend s (some (.push path headers)) = (s, [], some .unexpectedMessage) := by
  have h := (http1_not_in_h2_only_sets s.version hv).2
  simp [Http.appSend, h]

def isInfoOrPush : Http.Ev → Bool
  | .info .. => true
  | .push .. => true
  | _ => false

def noInfoOrPush (l : List Http.Ev) : Bool := l.all (fun e => !isInfoOrPush e)

theorem bodyEv_no_info_or_push (b : Option HV) (evs : List Http.Ev) (h : Http.bodyEv b = .ok evs) : noInfoOrPush evs = true := by
  cases Http.bodyEvs_of_bodyEv h <;> rfl

theorem bodyPart_no_info_or_push (c : Bool) (b : Option HV) (evs : List Http.Ev)
    (h : (if c = true then Except.ok [] else Http.bodyEv b) = Except.ok evs) : noInfoOrPush evs = true := by
  cases c
  · exact bodyEv_no_info_or_push b evs (by simpa using h)
  · simp at h; subst h; rfl

theorem http1_never_emits_info_or_push (s : Http.S) (m : Option Http.Msg) (hv : Http1Version s.version) :
    noInfoOrPush (Http.appSend s m).2.1 = true := by
  obtain ⟨h1, h2⟩ := http1_not_in_h2_only_sets s.version hv
  have h := Http.sent_appSend s m
  generalize Http.appSend s m = o at h ⊢
  -- the rows `hint` and `push` need the version to be in one of the two sets; the other rows hold by evaluation
  cases h <;> (try cases ‹Http.BodyEvs _›) <;> (try cases ‹Http.Closing ..›) <;> first | rfl | simp_all

/-- non-vacuity of the HTTP/1 statements: HTTP/1.1, early hint and push before the response, then the response itself -/
example :
    let s : Http.S := { method := "GET", version := "1.1" }
    Http.appSend s (some (.earlyHint (some [.bytes "</s.css>".b]))) = (s, [], some .unexpectedMessage) ∧
    Http.appSend s (some (.push (some (.str "/p")) (some []))) = (s, [], some .unexpectedMessage) ∧
    (Http.appSend s (some (.start (some 200) (some []) false))).2 = ([.response 200 []], none) ∧
    (Http.appSend { s with version := "2" } (some (.earlyHint (some [.bytes "</s.css>".b])))).2 = ([.info 103 [("link".b, "</s.css>".b)]], none) := by decide +kernel

/-- non-vacuity: a concrete HTTP/2 state in which a late push, a second start and a body with a `str` payload are all
    rejected without effect, and a CR/LF header is refused before anything is emitted -/
example :
    let s : Http.S := { method := "GET", version := "2", st := .response, response := some (200, false) }
    Http.appSend s (some (.start (some 200) (some []) false)) = (s, [], some .unexpectedMessage) ∧
    (Http.appSend s (some (.body (some (.str "x")) false))).2 = ([], some .typeError) ∧
    (Http.appSend { s with st := .closed } (some (.push (some (.str "/p")) (some [])))).2 = ([], some .unexpectedMessage) ∧
    (Http.appSend { s with st := .request } (some (.start (some 200) (some [(.bytes "a".b, .bytes "x\r\ny".b)]) false))).2
      = ([], some .valueError) := by decide +kernel

end HC.Props.C12
