import HC.Proto.H11Close
import HC.Proto.H11Dead
import HC.Conn.Shell
import HC.Extracted.Runtime
/-!
# C06 — HTTP/1.x persistent-connection and pipelining safety

Theorems about the model of `H11Protocol` (`HC/Proto/H11.lean`) composed with the h11 connection-state machine
`H11M` (tables extracted from the installed library).  "For every op sequence" = every interleaving of library
events, application sends (of *any* stream object, current or orphaned), connection closes and termination; the
invariants over runs (`Inv`, `Lost`, the `H11Close.Closed` predicates) are case analyses on the moves of an op
(`H11.step_moves`, `HC/Proto/H11Moves.lean`).
-/
namespace HC.Props.C06
open HC HC.Stream HC.Lib HC.Proto.H11 HC.Extracted.H11Tables

/-! ### the protocol: a live stream is never overwritten -/

/-- `self.stream is not None` implies the h11 client side is past IDLE -/
def Inv (st : St) : Prop := st.cur.isSome = true → st.lib.client ≠ .idle

theorem inv_init : Inv {} := by intro h; simp at h

private theorem sends_inv {a b : St} (h : Sends a b) (hI : Inv a) : Inv b := by
  unfold Inv at *
  induction h with
  | frame h1 _ h3 _ _ _ => rw [h1, h3]; exact hI
  | trans _ _ ih1 ih2 => exact ih2 (ih1 hI)
  | call h => exact fun hc hi => hI hc (h.after.1 hi)
  | unsetCur => intro hc; cases hc
  | recycle h0 _ _ => intro hc; rw [h0] at hc; cases hc
  | setClosed => exact hI

/-- a stream becomes the current one only with a `Request`, which leaves h11's client side past IDLE; nothing but
    `start_next_cycle` brings it back, and `_maybe_recycle` has dropped the stream by then -/
private theorem moves_inv {a b : St} (h : Moves a b) (hI : Inv a) : Inv b := by
  induction h with
  | sends h => exact sends_inv h hI
  | trans _ _ ih1 ih2 => exact ih2 (ih1 hI)
  | recvError a => exact fun _ hi => by rw [(H11M.recvError_after a.lib).1] at hi; cases hi
  | recvClosed h => exact fun _ => (H11M.stepClient_after _ _ _ h).2.1
  | recvData h => obtain ⟨x, hx, rfl⟩ := H11M.recvData_eq h; exact fun _ => (H11M.stepClient_after _ _ _ hx).2.1
  | recvEom _ h => obtain ⟨x, hx, rfl⟩ := H11M.recvEom_eq h; exact fun _ => (H11M.stepClient_after _ _ _ hx).2.1
  | recvRequest h _ _ _ => exact fun _ => (H11M.recvRequest_after _ _ _ h).2.2

/-- **the invariant is preserved by every op**, whichever stream object (current or orphaned) an application drives -/
theorem inv_step (cfg : Cfg) (token : Bytes → Bytes) (ext : Option Bytes) (st st' : St) (op : Op) (outs : List Out)
    (err : Option PyErr) (hI : Inv st) (hs : step cfg token ext st op = some (st', outs, err)) : Inv st' :=
  moves_inv (step_moves cfg token ext st st' op outs err hs) hI

/-- a `Request` the reader accepts found h11's client side IDLE (the loop top's 100 Continue does not bring it there) -/
theorem request_needs_idle {cfg : Cfg} {st : St} {r : ReqEv} {res : St × List Out} (h : onLibEv cfg st (.request r) = some res) :
    st.lib.client = .idle := by
  obtain ⟨_, hl, _⟩ := onLibEvBody_request (onLibEv_eq h)
  exact loopTop_idle cfg st (H11M.recvRequest_idle _ _ _ hl)

/-! ### the property theorems -/

/-- state transition of the protocol model, outputs dropped -/
def next (cfg : Cfg) (token : Bytes → Bytes) (ext : Option Bytes) (st : St) (op : Op) : Option St :=
  (step cfg token ext st op).map (·.1)

/-- every state reachable by any sequence of ops (library events, sends of any application, closes) satisfies `Inv` -/
theorem inv_reachable (cfg : Cfg) (token : Bytes → Bytes) (ext : Option Bytes) (ops : List Op) (st : St)
    (h : runOps (next cfg token ext) {} ops = some st) : Inv st := by
  refine inv_runOps (next cfg token ext) Inv (fun _ => True) ?_ ops {} st inv_init (fun _ _ => trivial) h
  intro s o s' _ hI hs
  simp only [next, Option.map_eq_some_iff] at hs
  obtain ⟨⟨s1, o1, e1⟩, hstep, rfl⟩ := hs
  exact inv_step cfg token ext s s1 o o1 e1 hI hstep

/-- **requests are served strictly one at a time**: in every reachable state, a new `Request` event is accepted only
    when no stream is live — a live stream (and its application) is never overwritten by the next pipelined request -/
theorem serial (cfg : Cfg) (token : Bytes → Bytes) (ext : Option Bytes) (ops : List Op) (st : St) (r : ReqEv)
    (res : St × List Out × Option PyErr)
    (hreach : runOps (next cfg token ext) {} ops = some st)
    (hstep : step cfg token ext st (.ev (.request r)) = some res) : st.cur = none := by
  have hI := inv_reachable cfg token ext ops st hreach
  simp only [step, Option.map_eq_some_iff] at hstep
  obtain ⟨res', hev, _⟩ := hstep
  cases hc : st.cur with
  | none => rfl
  | some i => exact absurd (request_needs_idle hev) (hI (by rw [hc]; rfl))

theorem closeStream_outs (st : St) : ∀ o ∈ (closeStream st).2,
    (∃ a, o = Out.access a) ∨ (∃ i m, o = Out.putHttp i m) ∨ (∃ i m, o = Out.putWs i m) := by
  intro o ho
  unfold closeStream at ho
  split at ho
  · simp at ho
  · split at ho
    · simp at ho
    · simp only [List.mem_append, List.mem_filterMap, List.mem_map] at ho
      rcases ho with ⟨e, _, he⟩ | ⟨m, _, rfl⟩
      · split at he
        · simp only [Option.some.injEq] at he; exact Or.inl ⟨_, he.symm⟩
        · cases he
      · exact Or.inr (Or.inl ⟨_, _, rfl⟩)
    · simp only [List.mem_map] at ho
      obtain ⟨m, _, rfl⟩ := ho
      exact Or.inr (Or.inr ⟨_, _, rfl⟩)

/-- the two ways out of `_maybe_recycle`, by its test (read on the state as it is before `_close_stream`, which touches none of
    the five atoms) -/
private theorem maybeRecycle_cases (st : St) :
    (st.closed = false ∧ st.terminated = false ∧ st.lib.server = .done ∧ st.lib.client = .done ∧ st.wsMode = false →
      (maybeRecycle st).2 = (closeStream st).2 ++ [.startNextCycle true, .upUpdated true]) ∧
    (¬ (st.closed = false ∧ st.terminated = false ∧ st.lib.server = .done ∧ st.lib.client = .done ∧ st.wsMode = false) →
      (maybeRecycle st).2 = (closeStream st).2 ++ [.upClosed] ∧ (maybeRecycle st).1.lib = st.lib) := by
  have hl : (closeStream st).1.lib = st.lib ∧ (closeStream st).1.terminated = st.terminated ∧ (closeStream st).1.wsMode = st.wsMode ∧
      (closeStream st).1.closed = st.closed := by
    rw [closeStream_shape]; exact ⟨rfl, rfl, rfl, rfl⟩
  unfold maybeRecycle
  simp only [hl.1, hl.2.1, hl.2.2.1, hl.2.2.2]
  refine ⟨fun ⟨hcl0, ht, hs, hcl, hw⟩ => ?_, fun hc => ?_⟩
  · have hsn : H11M.startNextCycle st.lib = some { st.lib with client := .idle, server := .idle, waiting100 := false, reqHead := false, reqConnect := false } := by
      simp [H11M.startNextCycle, hs, hcl]
    simp [hcl0, ht, hs, hcl, hw, hsn]
  · have hcond : (!st.closed && !st.terminated && st.lib.server == .done && st.lib.client == .done && !st.wsMode) = false := by
      cases hc0 : st.closed <;> cases ht : st.terminated <;> cases hw : st.wsMode <;> simp_all
    simp [hcond]

/-- **the connection is reused iff request and response are both complete, neither side asked to close (h11 then has
    both sides DONE), the connection has not been lost (`handle(Closed)`, repair 1726ce9) and shutdown has not begun;
    otherwise `Closed` is sent** -/
theorem reuse_iff (st : St) :
    (Out.startNextCycle true ∈ (maybeRecycle st).2 ↔
      (st.closed = false ∧ st.terminated = false ∧ st.lib.server = .done ∧ st.lib.client = .done ∧ st.wsMode = false)) ∧
    (Out.upClosed ∈ (maybeRecycle st).2 ↔
      ¬ (st.closed = false ∧ st.terminated = false ∧ st.lib.server = .done ∧ st.lib.client = .done ∧ st.wsMode = false)) := by
  have hcs : ∀ o ∈ (closeStream st).2, o ≠ Out.startNextCycle true ∧ o ≠ Out.upClosed := by
    intro o ho
    rcases closeStream_outs st o ho with ⟨a, rfl⟩ | ⟨i, m, rfl⟩ | ⟨i, m, rfl⟩ <;> simp
  have hn1 : Out.startNextCycle true ∉ (closeStream st).2 := fun h => (hcs _ h).1 rfl
  have hn2 : Out.upClosed ∉ (closeStream st).2 := fun h => (hcs _ h).2 rfl
  by_cases hc : st.closed = false ∧ st.terminated = false ∧ st.lib.server = .done ∧ st.lib.client = .done ∧ st.wsMode = false
  · rw [(maybeRecycle_cases st).1 hc]; simp [hn1, hn2, hc]
  · rw [((maybeRecycle_cases st).2 hc).1]; simp [hn1, hn2, hc]

/-- `_maybe_recycle` never calls into h11's `send`: its outputs are the close-stream notifications, the cycle restart
    and the `Updated` / `Closed` events -/
theorem maybeRecycle_no_libSend (st : St) (e : LibSend) (ok : Bool) : Out.libSend e ok ∉ (maybeRecycle st).2 := by
  intro hmem
  have hcs := closeStream_outs st
  unfold maybeRecycle at hmem
  have hin : Out.libSend e ok ∈ (closeStream st).2 := by
    simp only [] at hmem
    (repeat' split at hmem) <;> simp at hmem <;> exact hmem
  rcases hcs _ hin with ⟨a, ha⟩ | ⟨j, m, ha⟩ | ⟨j, m, ha⟩ <;> cases ha

/-- **after a close decision nothing more is served**: if the protocol did not recycle when its current stream ended,
    h11 will never yield another `Request` on this connection (the client side is not IDLE and never returns to it) -/
theorem no_request_after_close (cfg : Cfg) (st : St) (r : ReqEv) (hI : Inv st) (hcur : st.cur.isSome = true)
    (hnot : ¬ (st.closed = false ∧ st.terminated = false ∧ st.lib.server = .done ∧ st.lib.client = .done ∧ st.wsMode = false)) :
    onLibEv cfg { (maybeRecycle st).1 with pc := .inLoop } (.request r) = none := by
  have hidle : st.lib.client ≠ .idle := hI hcur
  have hlib : (maybeRecycle st).1.lib = st.lib := ((maybeRecycle_cases st).2 hnot).2
  cases hres : onLibEv cfg { (maybeRecycle st).1 with pc := .inLoop } (.request r) with
  | none => rfl
  | some res =>
    exact absurd (request_needs_idle hres) (by simpa [hlib] using hidle)

/-- **close is announced on the response head** whenever the cause is known when the head is sent: the client asked
    (`Connection: close` / HTTP/1.0: h11's keep-alive flag is off) or the per-connection request maximum is reached -/
theorem close_announced (cfg : Cfg) (st : St) (status : Nat) (app : Headers) (hs : 200 ≤ status)
    (hcause : st.lib.keepAlive = false ∨ st.keepAliveRequests ≥ cfg.keepAliveMax) :
    ∃ hdrs, Proto.Heads.h11Response status app cfg.serverHeaders st.keepAliveRequests cfg.keepAliveMax = Proto.Heads.H11Head.final status hdrs ∧
      H11M.respAnnouncesClose st.lib (respInfo status hdrs) = true := by
  have hfin : Extracted.Guards.h11FinalStatusCmp.eval status 200 = true := by
    simp [Extracted.Guards.h11FinalStatusCmp, Extracted.Guards.Cmp.eval, hs]
  unfold Proto.Heads.h11Response
  rw [if_pos hfin]
  refine ⟨_, rfl, ?_⟩
  rcases hcause with hk | hm
  · simp [H11M.respAnnouncesClose, hk]
  · have hcmp : Extracted.Guards.h11KeepAliveCmp.eval st.keepAliveRequests cfg.keepAliveMax = true := by
      simp [Extracted.Guards.h11KeepAliveCmp, Extracted.Guards.Cmp.eval]; omega
    simp [hcmp, H11M.respAnnouncesClose, connClose_of_mem status (app ++ (cfg.serverHeaders ++ [("connection".b, "close".b)])) (by simp)]

/-- server-generated error responses (malformed request, 404 by server name, 500) always announce close -/
theorem error_response_announces_close (st : St) (status : Nat) (srv : Headers) :
    H11M.respAnnouncesClose st.lib (respInfo status ([("content-length".b, "0".b), ("connection".b, "close".b)] ++ srv)) = true := by
  simp [H11M.respAnnouncesClose, connClose_of_mem status (("content-length".b, "0".b) :: ("connection".b, "close".b) :: srv) (by simp)]

/-! ### "neither side asked to close" and "an aborted or malformed message", over whole runs

`H11Close.step_closed`: predicates of (`request_complete`, h11 state) that every library call preserves hold along every run;
three instances. -/

open HC.Proto.H11Close in
/-- a `Closed` predicate that holds in `st` holds after every accepted run from `st` -/
theorem closed_run {P : Bool → H11M.St → Prop} (hC : Closed P) (cfg : Cfg) (token : Bytes → Bytes) (ext : Option Bytes)
    (ops : List Op) (st st' : St) (h0 : R P st) (h : runOps (next cfg token ext) st ops = some st') : R P st' := by
  refine inv_runOps (next cfg token ext) (R P) (fun _ => True) ?_ ops st st' h0 (fun _ _ => trivial) h
  intro s o s' _ hI hs
  simp only [next, Option.map_eq_some_iff] at hs
  obtain ⟨⟨s1, o1, e1⟩, hstep, rfl⟩ := hs
  exact step_closed hC cfg token ext s s1 o o1 e1 hI hstep

/-- what the model hard-codes about `self.request_complete` and about the application's response head is what the source
    says now (extracted on every run): the flag is reset when a new `h11.Request` arrives, before its stream is created,
    and set at `EndOfMessage`; `HTTPStream.app_send` hands the validated headers of `http.response.start` to the protocol
    as they are (so h11 sees the application's own `connection: close`); the server's own `connection: close` is appended to
    final heads only -/
theorem close_sites_guard : Extracted.Guards.h11RequestResetsComplete = true ∧ Extracted.Guards.h11EomSetsComplete = true ∧
    Extracted.Guards.httpStartHeadersVerbatim = true ∧ Extracted.Guards.h11CloseOnFinalOnly = true := by decide

/-- **a protocol error is only ever ignored after a COMPLETE request**: the guard of `except h11.RemoteProtocolError: if <guard>:
    break` in `_handle_events`, extracted on every run as a function of its atoms (a stream is live, `request_complete`, h11's two
    states), is `stream is not None and request_complete` - whatever h11's writer is doing (the application may have begun its
    response while the body is still arriving).  The model's `LibEv.protoError` branch evaluates the extracted guard (`errIgnored`);
    `malformed_body_closes` below needs this equation. -/
theorem error_ignored_only_after_complete_request (streamLive requestComplete : Bool) (our their : Nat) :
    Extracted.Guards.h11ErrorIgnored streamLive requestComplete our their = (streamLive && requestComplete) := by
  rfl

/-- **the server's own `connection: close` goes on final response heads only**: an interim head (status below 200: the
    101 of a websocket accept, whatever `keep_alive_requests` is) is the stream's headers followed by the configured ones
    and nothing else, so the upgrade that is the last request a connection may serve is still answered by the faithful
    rendering of the accept (placement of the append extracted: `close_sites_guard`) -/
theorem interim_head_never_announces_close (status : Nat) (app srv : Headers) (kar kmax : Nat) (hs : status < 200) :
    Proto.Heads.h11Response status app srv kar kmax = Proto.Heads.H11Head.informational status (app ++ srv) := by
  have hfin : Extracted.Guards.h11FinalStatusCmp.eval status 200 = false := by
    simp [Extracted.Guards.h11FinalStatusCmp, Extracted.Guards.Cmp.eval]; omega
  unfold Proto.Heads.h11Response
  simp [hfin]

/-- a new request starts incomplete: whatever the flag was (the previous request of a reused connection left it set) -/
theorem request_resets_complete (cfg : Cfg) (st st' : St) (o0 outs : List Out) (r : ReqEv)
    (h : onLibEvBody cfg st o0 (.request r) = some (st', outs)) : st'.requestComplete = false := by
  obtain ⟨st1, _, h1, _, _, hs⟩ := onLibEvBody_request h
  exact hs.requestComplete.trans h1

/-- **`request_complete` only ever refers to the request in progress**: in every reachable state, while h11 is still
    reading a request body (`their_state is SEND_BODY`) the flag is down - also on a reused connection, also for a
    pipelined request -/
theorem complete_means_body_over (cfg : Cfg) (token : Bytes → Bytes) (ext : Option Bytes) (ops : List Op) (st : St)
    (h : runOps (next cfg token ext) {} ops = some st) (hb : st.lib.client = .sendBody) : st.requestComplete = false := by
  have hR := closed_run Proto.H11Close.closed_RC cfg token ext ops {} st (by intro hc; cases hc) h
  cases hc : st.requestComplete
  · rfl
  · exact absurd hb (hR hc)

/-- **a message that goes wrong inside its body is never ignored** (reused connection or not): for every reachable state
    in which h11 is reading a request body, a RemoteProtocolError out of `next_event()` makes the protocol send `Closed`
    and leave the read loop; when h11's writer is still IDLE / SEND_RESPONSE the hinted error response (which announces
    close: `error_response_announces_close`) and its EndOfMessage go out first -/
theorem malformed_body_closes (cfg : Cfg) (token : Bytes → Bytes) (ext : Option Bytes) (ops : List Op) (st : St) (hint : Nat)
    (h : runOps (next cfg token ext) {} ops = some st) (hb : st.lib.client = .sendBody) (hpc : st.pc = .inLoop) (hsw : st.switched = false) :
    ∃ st' outs, onLibEv cfg st (.protoError hint) = some (st', outs) ∧ Out.upClosed ∈ outs ∧ st'.pc = .idle ∧
      (((H11M.recvError (loopTop cfg st).1.lib).server = .idle ∨ (H11M.recvError (loopTop cfg st).1.lib).server = .sendResponse) →
        ∃ hs ok, Out.libSend (.response hint ([("content-length".b, "0".b), ("connection".b, "close".b)] ++ hs)) ok ∈ outs) := by
  have hrc := complete_means_body_over cfg token ext ops st h hb
  have hlt : (loopTop cfg st).1.requestComplete = false := by
    rw [(loopTop_sends cfg st).requestComplete]; exact hrc
  unfold onLibEv
  have hc : (st.pc != .inLoop || st.switched) = false := by simp [hpc, hsw]
  rw [if_neg (by simp [hc])]
  have hign : errIgnored { (loopTop cfg st).1 with lib := H11M.recvError (loopTop cfg st).1.lib } = false := by
    rw [errIgnored_eq error_ignored_only_after_complete_request]; simp only [hlt, Bool.and_false]
  simp only [onLibEvBody, hign, Bool.false_eq_true, if_false]
  refine ⟨_, _, rfl, by simp, rfl, ?_⟩
  intro hst
  have hcond : ((H11M.recvError (loopTop cfg st).1.lib).server == .idle || (H11M.recvError (loopTop cfg st).1.lib).server == .sendResponse) = true := by
    rcases hst with h1 | h1 <;> simp [h1]
  simp only [hcond, if_true]
  refine ⟨cfg.serverHeaders, ?_⟩
  unfold libSend
  simp only []
  split
  · exact ⟨true, by simp⟩
  · exact ⟨false, by simp⟩

/-- the response head the protocol hands to h11 for an application's `http.response.start` carries the application's
    headers first and unchanged (status 200 and up) -/
theorem app_headers_reach_h11 (cfg : Cfg) (st : St) (status : Nat) (app : Headers) (hs : 200 ≤ status) :
    ∃ rest, Proto.Heads.h11Response status app cfg.serverHeaders st.keepAliveRequests cfg.keepAliveMax = Proto.Heads.H11Head.final status (app ++ rest) := by
  have hfin : Extracted.Guards.h11FinalStatusCmp.eval status 200 = true := by
    simp [Extracted.Guards.h11FinalStatusCmp, Extracted.Guards.Cmp.eval, hs]
  unfold Proto.Heads.h11Response
  rw [if_pos hfin]
  exact ⟨_, by rw [List.append_assoc]⟩

/-- **either side asking to close ends the connection's reuse for good**: once a response head with `connection: close`
    (the application's own header, the server's at the request maximum or on an error response) was accepted by h11 - or
    the client asked (`Connection: close`, HTTP/1.0), i.e. h11's keep-alive flag is off in `st` - then after ANY further
    ops the end of the current stream does not recycle the connection: no `start_next_cycle`, `Closed` is sent -/
theorem asked_to_close_never_reused (cfg : Cfg) (token : Bytes → Bytes) (ext : Option Bytes) (ops ops' : List Op) (st st' : St)
    (h : runOps (next cfg token ext) {} ops = some st) (hoff : st.lib.keepAlive = false)
    (h' : runOps (next cfg token ext) st ops' = some st') :
    Out.startNextCycle true ∉ (maybeRecycle st').2 ∧ Out.upClosed ∈ (maybeRecycle st').2 := by
  have hoff' : st'.lib.keepAlive = false := closed_run Proto.H11Close.closed_off cfg token ext ops' st st' hoff h'
  have hka : Proto.H11Close.KA st'.lib :=
    closed_run Proto.H11Close.closed_KA cfg token ext (ops ++ ops') {} st' (by intro hk; cases hk)
      (by rw [runOps_append, h]; exact h')
  have hnd : st'.lib.server ≠ .done := hka hoff'
  have hr := reuse_iff st'
  constructor
  · intro hm; exact hnd (hr.1.mp hm).2.2.1
  · exact hr.2.mpr (fun hc => hnd hc.2.2.1)

/-- the application's `connection: close` turns h11's keep-alive flag off when its head is sent -/
theorem app_close_turns_keepalive_off (st : St) (status : Nat) (hdrs : Headers)
    (hc : (respInfo status hdrs).connClose = true) (hok : Out.libSend (.response status hdrs) true ∈ (libSend st (.response status hdrs)).2.1) :
    (libSend st (.response status hdrs)).1.lib.keepAlive = false := by
  unfold libSend at hok ⊢
  simp only [] at hok ⊢
  split
  · rename_i lib' hl
    exact Proto.H11Close.sendResponse_close_off _ _ _ hc hl
  · rename_i hl
    rw [hl] at hok
    simp at hok

/-! ### an aborted exchange: a write of the response failed, the worker's shell told the protocol `Closed`

The two halves of "an aborted message closes the connection without processing further requests" when the abort is seen
by the WRITER (the reader is parked behind a pipelined request and does not read the end of the stream):
* shell (`HC/Conn/Shell.lean`, `Runtime` records extracted from the two `tcp_server.py`): a `send(RawData)` that cannot be
  written calls `protocol.handle(Closed())` - for both workers (`failed_write_tells_protocol`);
* protocol: from then on (`self.closed` set while h11's reader side is past IDLE) no op whatsoever - the application
  finishing its response into the void, h11 reaching DONE / DONE, the released reader looping - recycles the connection or
  starts another instance, and a `Request` event is not enabled (`aborted_exchange_never_reused`). -/

/-- `self.closed` is set while h11's reader side is past IDLE (a request is in progress, or complete and not recycled);
    `n` application instances started and `c` recycles so far -/
def Lost (n c : Nat) (st : St) : Prop := st.closed = true ∧ st.lib.client ≠ .idle ∧ st.spawns = n ∧ st.cycles = c

private theorem libSend_keeps (st : St) (e : LibSend) : (libSend st e).1.closed = st.closed ∧ (libSend st e).1.spawns = st.spawns ∧
    (libSend st e).1.cycles = st.cycles := by
  rw [libSend_shape]; exact ⟨rfl, rfl, rfl⟩

/-- with `self.closed` set, the end of a stream never recycles: `not self.closed` is the first conjunct of the test -/
private theorem sends_lost {n c : Nat} {a b : St} (h : Sends a b) (hL : Lost n c a) : Lost n c b := by
  unfold Lost at *
  induction h with
  | frame h1 _ _ h4 h5 h6 => rw [h1, h4, h5, h6]; exact hL
  | trans _ _ ih1 ih2 => exact ih2 (ih1 hL)
  | call h => exact ⟨hL.1, fun hi => hL.2.1 (h.after.1 hi), hL.2.2⟩
  | unsetCur => exact hL
  | recycle _ hc _ => rw [hL.1] at hc; cases hc
  | setClosed => exact ⟨rfl, hL.2⟩

/-- h11 yields a `Request` only from IDLE, and no other event of the client side leads there -/
private theorem moves_lost {n c : Nat} {a b : St} (h : Moves a b) (hL : Lost n c a) : Lost n c b := by
  unfold Lost at *
  induction h with
  | sends h => exact sends_lost h hL
  | trans _ _ ih1 ih2 => exact ih2 (ih1 hL)
  | recvError a => exact ⟨hL.1, fun hi => (by rw [(H11M.recvError_after a.lib).1] at hi; cases hi), hL.2.2⟩
  | recvClosed h => exact ⟨hL.1, (H11M.stepClient_after _ _ _ h).2.1, hL.2.2⟩
  | recvData h => obtain ⟨x, hx, rfl⟩ := H11M.recvData_eq h; exact ⟨hL.1, (H11M.stepClient_after _ _ _ hx).2.1, hL.2.2⟩
  | recvEom _ h => obtain ⟨x, hx, rfl⟩ := H11M.recvEom_eq h; exact ⟨hL.1, (H11M.stepClient_after _ _ _ hx).2.1, hL.2.2⟩
  | recvRequest h _ _ _ => exact absurd (H11M.recvRequest_idle _ _ _ h) hL.2.1

/-- `Lost` is preserved by every op: library events, sends of any application (current or orphaned), closes, termination -/
theorem lost_step (n c : Nat) (cfg : Cfg) (token : Bytes → Bytes) (ext : Option Bytes) (st st' : St) (op : Op) (outs : List Out)
    (err : Option PyErr) (hL : Lost n c st) (hs : step cfg token ext st op = some (st', outs, err)) : Lost n c st' :=
  moves_lost (step_moves cfg token ext st st' op outs err hs) hL

/-- in a `Lost` state a `Request` event is not enabled: h11 yields one only from IDLE -/
theorem lost_no_request (n c : Nat) (cfg : Cfg) (token : Bytes → Bytes) (ext : Option Bytes) (st : St) (r : ReqEv) (hL : Lost n c st) :
    step cfg token ext st (.ev (.request r)) = none := by
  cases hres : step cfg token ext st (.ev (.request r)) with
  | none => rfl
  | some res =>
    simp only [step, Option.map_eq_some_iff] at hres
    obtain ⟨_, hev, _⟩ := hres
    exact absurd (request_needs_idle hev) hL.2.1

/-- **the worker tells the protocol when a write fails** (both workers, `Runtime` records extracted from the two
    `tcp_server.py` on every run): a `send(RawData)` on a transport that is broken or already closed, and a write that fails
    later in `drain()`, each call `protocol.handle(Closed())` - at once, not through the read loop, which is parked behind a
    pipelined request exactly when it matters and would never see the end of the stream -/
theorem failed_write_tells_protocol (rt : Conn.Shell.Runtime) (hrt : rt = Extracted.Runtime.asyncioRt ∨ rt = Extracted.Runtime.trioRt)
    (s s' : Conn.Shell.St) :
    (∀ d, (s.transportClosed = true ∨ s.writeBroken = true) → Conn.Shell.step rt s (.pRaw d) = some s' →
      s'.handled = s.handled ++ [(.closed, !s.transportClosed)]) ∧
    (Conn.Shell.step rt s .drainFail = some s' → s'.handled = s.handled ++ [(.closed, !s.transportClosed)]) := by
  have hw : rt.writeErrorClosesProtocol = true := by rcases hrt with rfl | rfl <;> rfl
  constructor
  · intro d hb h
    have hb' : (s.transportClosed || s.writeBroken) = true := by rcases hb with hb | hb <;> simp [hb]
    simp only [Conn.Shell.step, hb', hw, if_true, Option.some.injEq] at h
    subst h
    rfl
  · intro h
    simp only [Conn.Shell.step, hw, if_true, Option.some.injEq] at h
    subst h
    rfl

/-- **an aborted exchange ends the connection's reuse for good**: in any state in which h11 is inside an exchange (its reader
    side is past IDLE: a request is being read or answered - in particular whenever a stream is live, `Inv`), once the protocol
    is told `Closed` (the worker does so when a write of the response fails: `failed_write_tells_protocol`), then after ANY
    further ops - the application finishing its response into the void so that h11 reaches DONE / DONE, the reader released
    from behind a parked pipelined request - no further instance has been started, the connection has not been recycled, and
    h11 cannot even yield the pipelined `Request` -/
theorem aborted_exchange_never_reused (cfg : Cfg) (token : Bytes → Bytes) (ext : Option Bytes) (ops : List Op) (st st1 st' : St)
    (o : List Out) (e : Option PyErr) (r : ReqEv)
    (hbusy : st.lib.client ≠ .idle)
    (hc : step cfg token ext st .closed = some (st1, o, e))
    (h' : runOps (next cfg token ext) st1 ops = some st') :
    st'.spawns = st.spawns ∧ st'.cycles = st.cycles ∧ st'.closed = true ∧ step cfg token ext st' (.ev (.request r)) = none := by
  have h1 : Lost st.spawns st.cycles st1 := by
    simp only [step, Option.some.injEq, Prod.mk.injEq] at hc
    obtain ⟨rfl, _, _⟩ := hc
    rw [closeStream_shape]
    exact ⟨rfl, hbusy, rfl, rfl⟩
  have hL : Lost st.spawns st.cycles st' := by
    refine inv_runOps (next cfg token ext) (Lost st.spawns st.cycles) (fun _ => True) ?_ ops st1 st' h1 (fun _ _ => trivial) h'
    intro s op s' _ hI hs
    simp only [next, Option.map_eq_some_iff] at hs
    obtain ⟨⟨s2, o2, e2⟩, hstep, rfl⟩ := hs
    exact lost_step _ _ cfg token ext s s2 op o2 e2 hI hstep
  exact ⟨hL.2.2.1, hL.2.2.2, hL.1, lost_no_request _ _ cfg token ext st' r hL⟩

/-- the hypothesis `hbusy` of `aborted_exchange_never_reused` holds whenever a stream is live in a reachable state (a response
    can only be written for a live stream) -/
theorem live_stream_is_busy (cfg : Cfg) (token : Bytes → Bytes) (ext : Option Bytes) (ops : List Op) (st : St)
    (h : runOps (next cfg token ext) {} ops = some st) (hcur : st.cur.isSome = true) : st.lib.client ≠ .idle :=
  inv_reachable cfg token ext ops st h hcur

-- non-vacuity: a two-request pipeline in one read, the second parked until the first response completed
example :
    let req : ReqEv := { method := "GET".b, target := "/a".b, headers := [("host".b, "x".b)], version := "1.1".b }
    let ops : List Op := [.begin, .ev (.request req), .ev .eom, .ev .paused,
      .sendHttp 0 (some (.start (some 200) (some []) false)), .sendHttp 0 (some (.body none false)),
      .ev (.request req)]
    ((runOps (next { keepAliveMax := 10 } (fun _ => []) none) {} ops).map (fun s => (s.cur, s.cycles, s.spawns))) = some (some 1, 1, 2) := by
  decide +kernel

-- non-vacuity: a REUSED connection whose second request goes wrong inside its chunked body: the flag left by the first
-- request is down again, the error is answered (400 + close) and `Closed` is sent
private def exGet : ReqEv := { method := "GET".b, target := "/a".b, headers := [("host".b, "x".b)], version := "1.1".b }
private def exPost : ReqEv :=
  { method := "POST".b, target := "/b".b, headers := [("host".b, "x".b), ("transfer-encoding".b, "chunked".b)], version := "1.1".b }
private def exReused : Option St :=
  runOps (next { keepAliveMax := 10 } (fun _ => []) none) {} [.begin, .ev (.request exGet), .ev .eom, .ev .paused,
    .sendHttp 0 (some (.start (some 200) (some []) false)), .sendHttp 0 (some (.body none false)),
    .ev (.request exPost), .ev (.data "ab".b)]
set_option maxRecDepth 8000 in
example : exReused.map (fun s => (s.cycles, decide (s.lib.client = .sendBody), decide (s.pc = .inLoop), s.requestComplete)) =
    some (1, true, true, false) := by decide +kernel
set_option maxRecDepth 8000 in
example : (exReused.bind (fun s => onLibEv { keepAliveMax := 10 } s (.protoError 400))).map (fun r => (r.2.contains .upClosed,
    r.2.contains (.libSend (.response 400 [("content-length".b, "0".b), ("connection".b, "close".b)]) true))) = some (true, true) := by decide +kernel

-- non-vacuity: the application answers with its own `connection: close`: keep-alive goes off, the connection is not
-- recycled (no cycle restart, `closed` set), and the pipelined request is never accepted
set_option maxRecDepth 8000 in
example :
    let req : ReqEv := { method := "GET".b, target := "/a".b, headers := [("host".b, "x".b)], version := "1.1".b }
    let ops : List Op := [.begin, .ev (.request req), .ev .eom, .ev .paused,
      .sendHttp 0 (some (.start (some 200) (some [(.bytes "Connection".b, .bytes "close".b)]) false)), .sendHttp 0 (some (.body none false))]
    ((runOps (next { keepAliveMax := 10 } (fun _ => []) none) {} ops).map (fun s => (s.lib.keepAlive, s.cycles, s.closed, s.cur,
      (onLibEv { keepAliveMax := 10 } s (.request req)).isSome))) = some (false, 0, true, none, false) := by
  decide +kernel

-- non-vacuity: two pipelined requests in one read, the reader parked behind the second; the write of response 1's head fails and
-- the worker tells the protocol `Closed` (the same ops WITHOUT `.closed` recycle and accept the second request: the
-- two-request pipeline example): the released reader meets PAUSED again and leaves, whatever the application still sends goes nowhere, nothing is
-- recycled, no second instance, and the pipelined `Request` is not enabled
set_option maxRecDepth 8000 in
example :
    let req : ReqEv := { method := "GET".b, target := "/a".b, headers := [("host".b, "x".b)], version := "1.1".b }
    let ops : List Op := [.begin, .ev (.request req), .ev .eom, .ev .paused,
      .sendHttp 0 (some (.start (some 200) (some []) false)), .closed, .ev .paused,
      .sendHttp 0 (some (.body none false)), .sendHttp 0 none]
    ((runOps (next { keepAliveMax := 10 } (fun _ => []) none) {} ops).map (fun s => (s.cycles, s.spawns, s.closed, s.cur,
      decide (s.pc = .idle), (step { keepAliveMax := 10 } (fun _ => []) none s (.ev (.request req))).isSome))) =
      some (0, 1, true, none, true, false) := by
  decide +kernel

-- non-vacuity of `failed_write_tells_protocol`: on a broken transport the asyncio shell's log of `protocol.handle` calls gains
-- exactly `Closed` (transport still open), nothing is written
example :
    ((Conn.Shell.run Extracted.Runtime.asyncioRt {} [.read [71], .peerGone, .pRaw [72]]).map (fun s => (s.handled, s.written))) =
      some ([(.raw [71], true), (.closed, true)], []) := by
  decide +kernel

end HC.Props.C06
