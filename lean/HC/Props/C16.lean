import HC.Conn.Shell
import HC.Extracted.Runtime
import HC.Proto.H11
import HC.Proto.H2SendEvents
import HC.Extracted.AppExit
/-!
# C16 — protocol behaviour does not depend on the worker class

The workers share every line of protocol code; they differ in the connection shell (`tcp_server.py`) and in three
primitives of `worker_context.py`.  The theorems:

* `shell_worker_indep` — for every sequence of boundary operations, two shells whose runtimes are `Compatible` make the
  same `protocol.handle` calls while the transport is open, write the same bytes, close the transport during the same
  operation and have the idle timer in the same state while it can still matter; `worker_indep` instantiates it with the
  two records EXTRACTED from the source (`Compatible` is decided on them, so a one-sided change to a read loop, a write
  error path or the timer path re-opens the proof).
* what the runtimes may differ in is unobservable because of properties of the shared protocol code, proved on its models:
  - the extra `handle(Closed())` of trio's `protocol_send(Closed)` and of a timer that `_close()` did not stop:
    `h11_closed_idempotent`, `h2_closed_idempotent`, `http_stream_closed_idempotent`, `ws_stream_closed_idempotent`
    (a second Closed changes nothing and emits nothing);
  - trio's replace-on-`clear`: an event is only ever cleared while no *other* task waits on it
    (`h2_clear_discipline` over every op of the HTTP/2 send model; h11's `can_read` is cleared by its only waiter);
    `event_replace_eq_clear` shows that under this discipline a replaced event and a cleared one wake the same waiters.
* the two task groups (`task_group.py::_handle`, shapes EXTRACTED from both files) treat every way an application can end
  that exists in both runtimes alike: `task_groups_agree`; trio's second `send(None)` for an exception group is silent:
  `http_second_signal_silent`, `ws_second_signal_silent`.
-/
namespace HC.Props.C16
open HC HC.Conn.Shell

/-! ## the shell -/

theorem handledOpen_tell (s : St) (e : PEv) :
    (s.tell e).handledOpen = s.handledOpen ++ (if s.transportClosed then [] else [e]) := by
  unfold St.tell St.handledOpen
  cases s.transportClosed <;> simp [List.filter_append]

/-- the simulation relation between the two shells -/
def Rel (a b : St) : Prop :=
  a.readerDone = b.readerDone ∧ a.eofSeen = b.eofSeen ∧ a.transportClosed = b.transportClosed ∧ a.writeBroken = b.writeBroken ∧
  a.handledOpen = b.handledOpen ∧ a.written = b.written ∧ a.closeStep = b.closeStep ∧ a.steps = b.steps ∧
  (a.transportClosed = false → a.timerArmed = b.timerArmed)

theorem rel_obs (a b : St) (h : Rel a b) : a.obs = b.obs := by
  obtain ⟨h1, _, h2, _, h4, h5, h6, _, h8⟩ := h
  unfold St.obs
  cases hc : a.transportClosed
  · have := h8 hc
    simp_all
  · simp_all

theorem rel_refl (s : St) : Rel s s := by simp [Rel]

private theorem Rel.symm {a b : St} (h : Rel a b) : Rel b a :=
  ⟨h.1.symm, h.2.1.symm, h.2.2.1.symm, h.2.2.2.1.symm, h.2.2.2.2.1.symm, h.2.2.2.2.2.1.symm, h.2.2.2.2.2.2.1.symm,
    h.2.2.2.2.2.2.2.1.symm, fun hc => (h.2.2.2.2.2.2.2.2 (h.2.2.1 ▸ hc)).symm⟩

private theorem Rel.trans {a b c : St} (h : Rel a b) (k : Rel b c) : Rel a c :=
  ⟨h.1.trans k.1, h.2.1.trans k.2.1, h.2.2.1.trans k.2.2.1, h.2.2.2.1.trans k.2.2.2.1, h.2.2.2.2.1.trans k.2.2.2.2.1,
    h.2.2.2.2.2.1.trans k.2.2.2.2.2.1, h.2.2.2.2.2.2.1.trans k.2.2.2.2.2.2.1, h.2.2.2.2.2.2.2.1.trans k.2.2.2.2.2.2.2.1,
    fun hc => (h.2.2.2.2.2.2.2.2 hc).trans (k.2.2.2.2.2.2.2.2 (h.2.2.1 ▸ hc))⟩

/-- the same call of `protocol.handle` on both sides -/
private theorem Rel.tell {a b : St} (h : Rel a b) (e : PEv) : Rel (a.tell e) (b.tell e) := by
  obtain ⟨h1, h2, h3, h4, h5, h6, h7, h8, h9⟩ := h
  refine ⟨h1, h2, h3, h4, ?_, h6, h7, h8, h9⟩
  rw [handledOpen_tell, handledOpen_tell, h5, h3]

/-- once the transport is closed neither a call of `protocol.handle` nor the idle timer's state is visible -/
private theorem rel_closed (s : St) (hc : s.transportClosed = true) (e : PEv) (t : Bool) :
    Rel s (s.tell e) ∧ Rel s { s with timerArmed := t } := by
  refine ⟨⟨rfl, rfl, rfl, rfl, ?_, rfl, rfl, rfl, fun _ => rfl⟩, ⟨rfl, rfl, rfl, rfl, rfl, rfl, rfl, rfl, fun h => ?_⟩⟩
  · rw [handledOpen_tell, hc]; simp
  · rw [hc] at h; cases h

private theorem Rel.close {a b : St} (h : Rel a b) (ra rb : Runtime) : Rel (a.close ra) (b.close rb) := by
  obtain ⟨h1, h2, h3, h4, h5, h6, h7, h8, _⟩ := h
  refine ⟨h1, h2, rfl, h4, h5, h6, ?_, h8, fun hc => by cases hc⟩
  show (if a.transportClosed then a.closeStep else some a.steps) = (if b.transportClosed then b.closeStep else some b.steps)
  rw [h3, h7, h8]

/-! the same assignment on both sides keeps the relation; for the idle timer, values that agree while the transport is open -/

private theorem Rel.timer {a b : St} (h : Rel a b) {x y : Bool} (hxy : a.transportClosed = false → x = y) :
    Rel { a with timerArmed := x } { b with timerArmed := y } := by
  obtain ⟨h1, h2, h3, h4, h5, h6, h7, h8, _⟩ := h
  exact ⟨h1, h2, h3, h4, h5, h6, h7, h8, hxy⟩

private theorem Rel.eof {a b : St} (h : Rel a b) : Rel { a with eofSeen := true } { b with eofSeen := true } := by
  obtain ⟨h1, _, h3, h4, h5, h6, h7, h8, h9⟩ := h
  exact ⟨h1, rfl, h3, h4, h5, h6, h7, h8, h9⟩

private theorem Rel.done {a b : St} (h : Rel a b) {x y : Bool} (hxy : a.transportClosed = false → x = y) :
    Rel { a with readerDone := true, timerArmed := x } { b with readerDone := true, timerArmed := y } := by
  obtain ⟨_, h2, h3, h4, h5, h6, h7, h8, _⟩ := h
  exact ⟨rfl, h2, h3, h4, h5, h6, h7, h8, hxy⟩

private theorem Rel.broken {a b : St} (h : Rel a b) : Rel { a with writeBroken := true } { b with writeBroken := true } := by
  obtain ⟨h1, h2, h3, _, h5, h6, h7, h8, h9⟩ := h
  exact ⟨h1, h2, h3, rfl, h5, h6, h7, h8, h9⟩

private theorem Rel.wrote {a b : St} (h : Rel a b) (d : Bytes) : Rel { a with written := a.written ++ [d] } { b with written := b.written ++ [d] } := by
  obtain ⟨h1, h2, h3, h4, h5, h6, h7, h8, h9⟩ := h
  exact ⟨h1, h2, h3, h4, h5, congrArg (· ++ [d]) h6, h7, h8, h9⟩

/-- `_initiate_server_close` closes the transport -/
private theorem Rel.shut {a b : St} (h : Rel a b) :
    Rel { a with transportClosed := true, closeStep := if a.transportClosed then a.closeStep else some a.steps }
        { b with transportClosed := true, closeStep := if b.transportClosed then b.closeStep else some b.steps } := by
  obtain ⟨h1, h2, h3, h4, h5, h6, h7, h8, _⟩ := h
  exact ⟨h1, h2, rfl, h4, h5, h6, by simp only [h3, h7, h8], h8, fun hc => by cases hc⟩

private theorem rel_shut_closed (s : St) (hc : s.transportClosed = true) :
    Rel s { s with transportClosed := true, closeStep := if s.transportClosed then s.closeStep else some s.steps } :=
  ⟨rfl, rfl, hc, rfl, rfl, rfl, by simp only [hc, if_true], rfl, fun h => by simp [hc] at h⟩

/-- with the transport closed, whatever the idle timer still does is invisible -/
private theorem timerFire_closed (rt : Runtime) (s : St) (hc : s.transportClosed = true) :
    ∃ s', step rt s .timerFire = some s' ∧ Rel { s with steps := s.steps + 1 } s' := by
  let t : St := { s with steps := s.steps + 1 }
  let t1 : St := { t with timerArmed := false }
  have k : Rel t t1 := (rel_closed t hc .closed false).2
  simp only [step]
  split
  · exact ⟨_, rfl, (rel_closed t hc .closed false).1⟩
  · split
    · exact ⟨_, rfl, k.trans ((rel_closed t1 hc .closed false).1.trans (rel_shut_closed (t1.tell .closed) hc))⟩
    · refine ⟨_, rfl, rfl, rfl, hc, rfl, ?_, rfl, rfl, rfl, fun h => by simp [hc] at h⟩
      rw [handledOpen_tell]; simp; rfl

private theorem Rel.ite {a b a2 b2 : St} {p q : Bool} (hpq : p = q) (h1 : Rel a b) (h2 : Rel a2 b2) :
    Rel (if p then a else a2) (if q then b else b2) := by
  subst hpq; cases p
  · exact h2
  · exact h1

theorem step_rel (ra rb : Runtime) (hc : Compatible ra rb = true) (a b a' : St) (o : Op) (h : Rel a b) (ha : step ra a o = some a') :
    ∃ b', step rb b o = some b' ∧ Rel a' b' := by
  simp only [Compatible, Bool.and_eq_true, beq_iff_eq] at hc
  obtain ⟨⟨⟨⟨⟨c1, c2⟩, c3⟩, c4⟩, _⟩, _⟩ := hc
  obtain ⟨h1, h2, h3, h4, h5, h6, h7, h8, h9⟩ := h
  -- both shells count the op
  have h : Rel { a with steps := a.steps + 1 } { b with steps := b.steps + 1 } :=
    ⟨h1, h2, h3, h4, h5, h6, h7, congrArg (· + 1) h8, h9⟩
  cases o with
  | read d =>
    simp only [step] at ha ⊢
    split at ha
    · cases ha
    · rename_i hg; cases ha; exact ⟨_, if_neg (by rw [← h1, ← h2]; exact hg), h.tell _⟩
  | readEmpty together afterClosePassed =>
    simp only [step] at ha ⊢
    split at ha
    · cases ha
    · rename_i hg
      cases ha
      -- the empty read is handed on by both or by neither; then both have seen the end of the stream
      exact ⟨_, if_neg (by rw [← h1, ← h2]; exact hg), (Rel.ite (by rw [h3, c2]) (h.tell _) h).eof⟩
  | readEnd =>
    simp only [step] at ha ⊢
    split at ha
    · cases ha
    · rename_i hg
      cases ha
      refine ⟨_, if_neg (by rw [← h1]; exact hg), (h.tell .closed).done fun hc => ?_⟩
      show (if ra.readEndStopsIdle then false else a.timerArmed) = (if rb.readEndStopsIdle then false else b.timerArmed)
      rw [c1, h9 hc]
  | peerGone => simp only [step] at ha ⊢; cases ha; exact ⟨_, rfl, h.broken⟩
  | pRaw d =>
    simp only [step] at ha ⊢
    split at ha <;> rename_i hg <;> cases ha
    · exact ⟨_, if_pos (by rw [← h3, ← h4]; exact hg), Rel.ite c3 (h.tell _) h⟩
    · exact ⟨_, if_neg (by rw [← h3, ← h4]; exact hg), h.wrote d⟩
  | drainFail => simp only [step] at ha ⊢; cases ha; exact ⟨_, rfl, Rel.ite c3 (h.tell _) h⟩
  | pClosed =>
    simp only [step] at ha ⊢
    cases ha
    refine ⟨_, rfl, ?_⟩
    -- trio's extra `handle(Closed())` comes after `_close()`: not visible
    have hcl := h.close ra rb
    have ka := (rel_closed (St.close ra { a with steps := a.steps + 1 }) rfl .closed false).1
    have kb := (rel_closed (St.close rb { b with steps := b.steps + 1 }) rfl .closed false).1
    cases ra.closedReenters <;> cases rb.closedReenters
    · exact hcl
    · exact hcl.trans kb
    · exact ka.symm.trans hcl
    · exact ka.symm.trans (hcl.trans kb)
  | pUpdated idle => simp only [step] at ha ⊢; cases ha; exact ⟨_, rfl, h.timer fun _ => rfl⟩
  | timerFire =>
    cases hcl : a.transportClosed
    · -- open: the timers agree, and so does the order of telling the protocol and closing
      have ht := h9 hcl
      simp only [step] at ha ⊢
      split at ha
      · rename_i hg; cases ha
        exact ⟨_, if_pos (by rw [← ht]; exact hg), Rel.ite h3 (h.tell _) h⟩
      · rename_i hg
        split at ha <;> rename_i hf <;> cases ha
        · exact ⟨_, (if_neg (by rw [← ht]; exact hg)).trans (if_pos (by rw [← c4]; exact hf)),
            ((h.timer fun _ => rfl).tell .closed).shut⟩
        · exact ⟨_, (if_neg (by rw [← ht]; exact hg)).trans (if_neg (by rw [← c4]; exact hf)),
            ((h.timer fun _ => rfl).shut).tell .closed⟩
    · obtain ⟨a1, ha1, ka⟩ := timerFire_closed ra a hcl
      obtain ⟨b1, hb1, kb⟩ := timerFire_closed rb b (h3 ▸ hcl)
      rw [ha] at ha1; cases ha1
      exact ⟨b1, hb1, ka.symm.trans (h.trans kb)⟩
  | groupDone =>
    simp only [step] at ha ⊢
    split at ha
    · rename_i hg; cases ha; exact ⟨_, if_pos (by rw [← h1]; exact hg), h.close ra rb⟩
    · cases ha

/-- **Shell independence**: two compatible runtimes are indistinguishable on every operation sequence. -/
theorem shell_worker_indep (ra rb : Runtime) (hc : Compatible ra rb = true) (ops : List Op) :
    ∀ (a b a' : St), Rel a b → run ra a ops = some a' → ∃ b', run rb b ops = some b' ∧ a'.obs = b'.obs := by
  induction ops with
  | nil => intro a b a' h hr; simp only [run] at hr ⊢; cases hr; exact ⟨b, rfl, rel_obs _ _ h⟩
  | cons o os ih =>
    intro a b a' h hr
    simp only [run] at hr ⊢
    split at hr
    · cases hr
    · rename_i a1 ha1
      obtain ⟨b1, hb1, hrel⟩ := step_rel ra rb hc a b a1 o h ha1
      rw [hb1]
      exact ih a1 b1 a' hrel hr

theorem extracted_compatible : Compatible Extracted.Runtime.asyncioRt Extracted.Runtime.trioRt = true := by decide

/-- both shells hand every connection its own copy of the worker's lifespan state (`ConnectionState(self.state.copy())` in both
    `run()`s, read off the source): what an application writes to `scope["state"]` stays on its connection in both workers -/
theorem both_copy_state : Extracted.Runtime.asyncioRt.copiesState = true ∧ Extracted.Runtime.trioRt.copiesState = true := by decide

/-- **C16 for the shells as the source has them now.** -/
theorem worker_indep (ops : List Op) (a' : St) (h : run Extracted.Runtime.asyncioRt {} ops = some a') :
    ∃ t', run Extracted.Runtime.trioRt {} ops = some t' ∧ a'.obs = t'.obs :=
  shell_worker_indep _ _ extracted_compatible ops {} {} a' (rel_refl _) h

/-- and the other way round -/
theorem worker_indep_conv (ops : List Op) (t' : St) (h : run Extracted.Runtime.trioRt {} ops = some t') :
    ∃ a', run Extracted.Runtime.asyncioRt {} ops = some a' ∧ t'.obs = a'.obs :=
  shell_worker_indep _ _ (by decide) ops {} {} t' (rel_refl _) h

/-- the hypotheses are satisfiable and the relation is not trivial: a keep-alive exchange ended by the idle timer -/
example : (run Extracted.Runtime.asyncioRt {} [.read [71], .pUpdated false, .pRaw [72], .pUpdated true, .timerFire, .readEmpty true true, .readEnd, .groupDone]).map St.obs
        = (run Extracted.Runtime.trioRt {} [.read [71], .pUpdated false, .pRaw [72], .pUpdated true, .timerFire, .readEmpty true true, .readEnd, .groupDone]).map St.obs
        ∧ ((run Extracted.Runtime.trioRt {} [.read [71], .pUpdated false, .pRaw [72], .pUpdated true, .timerFire]).map (·.obs.closeStep)) = some (some 5) := by
  decide +kernel

/-- sharpness: a runtime that does not pass the end of the stream on when it comes with the last data (asyncio before the
    F50 repair) is distinguishable -/
example : ∃ ops, (run { Extracted.Runtime.asyncioRt with eofAlwaysPassedOn := false } {} ops).map St.obs ≠ (run Extracted.Runtime.trioRt {} ops).map St.obs :=
  ⟨[.read [71], .readEmpty true false, .readEnd], by decide⟩

/-! ## a second `Closed` is silent (what makes `closedReenters` and an unstopped timer unobservable) -/

open HC.Proto in
/-- the `_close_stream()` of `H11Protocol.handle(Closed)` twice = once: the second call finds `self.stream is None` (the flags
    the handler sets besides are idempotent assignments) -/
theorem h11_closed_idempotent (st : H11.St) :
    H11.closeStream (H11.closeStream st).1 = ((H11.closeStream st).1, []) := by
  unfold H11.closeStream
  cases h : st.cur with
  | none => simp [h]
  | some i =>
    simp only
    cases h2 : st.objs[i]? with
    | none => simp
    | some o => cases o <;> simp [H11.St.setObj]

open HC.Stream in
/-- `HTTPStream.handle(StreamClosed)` on a closed stream: returns at once (`if self.closed: return`) -/
theorem http_stream_closed_idempotent (s : Http.S) :
    Http.handle (Http.handle s .streamClosed).1 .streamClosed = ((Http.handle s .streamClosed).1, [], []) := by
  unfold Http.handle
  by_cases h : s.closed <;> simp [h]

open HC.Stream in
theorem ws_stream_closed_idempotent (s : Ws.S) :
    let s1 := (Ws.handle s .streamClosed).1
    (Ws.handle s1 .streamClosed).1 = s1 ∧ (Ws.handle s1 .streamClosed).2.1 = [] := by
  unfold Ws.handle
  by_cases h : s.closed <;> simp [h]

/-- `H2Protocol.handle(Closed)` twice = once: streams are already popped, buffers already closed, `has_data` already set
    (proved over the HTTP/2 send model in `HC/Proto/H2SendEvents.lean`; restated here because it is what makes trio's re-entrant
    `protocol.handle(Closed())` unobservable on HTTP/2) -/
theorem h2_closed_idempotent (s s1 s2 : HC.Proto.H2Send.St)
    (h1 : HC.Proto.H2Send.step s .closed = some s1) (h2 : HC.Proto.H2Send.step s1 .closed = some s2) :
    s2.closed = s1.closed ∧ s2.hasData = s1.hasData ∧ s2.connWin = s1.connWin ∧ s2.task = s1.task ∧ ∀ i, s2.str i = s1.str i :=
  HC.Proto.H2SendEvents.closed_idempotent s s1 s2 h1 h2

/-! ## replace-on-clear is unobservable -/

/-- An event with generations: `clear` either resets the flag (asyncio) or replaces the object (trio: a new generation
    that is not set; the old object keeps its state).  A waiter remembers the generation it waits on. -/
structure Ev where
  gen : Nat := 0
  setGens : List Nat := []          -- generations (objects) that are set
  waiters : List (Nat × Nat) := []  -- (task, generation waited on)
deriving DecidableEq, Repr

inductive EvOp where
  | wait (task : Nat)               -- parks unless the current object is set
  | set
  | clear
deriving DecidableEq, Repr

def Ev.isSet (e : Ev) : Bool := e.setGens.contains e.gen

def Ev.step (replace : Bool) (e : Ev) : EvOp → Ev
  | .wait t => if e.isSet then e else { e with waiters := e.waiters ++ [(t, e.gen)] }
  | .set => { e with setGens := e.gen :: e.setGens, waiters := e.waiters.filter (fun w => w.2 != e.gen) }   -- wakes the waiters of this object
  | .clear => if replace then { e with gen := e.gen + 1 } else { e with setGens := e.setGens.filter (· != e.gen) }

/-- the discipline the glue follows: nobody is parked on the event when it is cleared -/
def Disciplined (replace : Bool) : Ev → List EvOp → Prop
  | _, [] => True
  | e, o :: os => (o = .clear → e.waiters = []) ∧ Disciplined replace (e.step replace o) os

def Ev.runOps (replace : Bool) : Ev → List EvOp → Ev
  | e, [] => e
  | e, o :: os => Ev.runOps replace (e.step replace o) os

/-- what the tasks can observe of an event: whether it is set and who is parked -/
def Ev.view (e : Ev) : Bool × List Nat := (e.isSet, e.waiters.map (·.1))

/-- invariant of a disciplined run: every parked waiter waits on the current object, and no future object is set -/
def EvInv (e : Ev) : Prop := (∀ w ∈ e.waiters, w.2 = e.gen) ∧ (∀ g ∈ e.setGens, g ≤ e.gen)

theorem evinv_step (replace : Bool) (e : Ev) (o : EvOp) (h : EvInv e) (hd : o = .clear → e.waiters = []) : EvInv (e.step replace o) := by
  obtain ⟨h1, h2⟩ := h
  cases o with
  | wait t =>
    simp only [Ev.step]
    split
    · exact ⟨h1, h2⟩
    · refine ⟨?_, h2⟩
      intro w hw
      simp only [List.mem_append, List.mem_singleton] at hw
      rcases hw with hw | hw
      · exact h1 w hw
      · subst hw; rfl
  | set =>
    simp only [Ev.step]
    refine ⟨?_, ?_⟩
    · intro w hw
      exact h1 w (List.mem_filter.mp hw).1
    · intro g hg
      simp only [List.mem_cons] at hg
      rcases hg with hg | hg
      · subst hg; exact Nat.le_refl _
      · exact h2 g hg
  | clear =>
    have hw := hd rfl
    simp only [Ev.step]
    split
    · refine ⟨by simp [hw], ?_⟩
      intro g hg
      have := h2 g hg
      simp only
      omega
    · refine ⟨h1, ?_⟩
      intro g hg
      exact h2 g (List.mem_filter.mp hg).1

/-- the two event semantics relate as: same waiters (as tasks), same "is set" -/
def EvRel (a b : Ev) : Prop := a.view = b.view ∧ EvInv a ∧ EvInv b

theorem isSet_after_replace (e : Ev) (h : EvInv e) : ({ e with gen := e.gen + 1 } : Ev).isSet = false := by
  simp only [Ev.isSet]
  rw [Bool.eq_false_iff]
  intro hc
  have hmem : e.gen + 1 ∈ e.setGens := by simpa using hc
  have := h.2 _ hmem
  omega

theorem isSet_after_clear (e : Ev) : ({ e with setGens := e.setGens.filter (· != e.gen) } : Ev).isSet = false := by
  simp [Ev.isSet]

/-- **replace = clear under the discipline**: the asyncio event and the trio event stay in the same view -/
theorem event_replace_eq_clear (ops : List EvOp) :
    ∀ (a b : Ev), EvRel a b → Disciplined false a ops → Disciplined true b ops →
      (Ev.runOps false a ops).view = (Ev.runOps true b ops).view := by
  induction ops with
  | nil => intro a b h _ _; exact h.1
  | cons o os ih =>
    intro a b h da db
    simp only [Ev.runOps]
    simp only [Disciplined] at da db
    apply ih _ _ _ da.2 db.2
    obtain ⟨hv, ia, ib⟩ := h
    refine ⟨?_, evinv_step false a o ia da.1, evinv_step true b o ib db.1⟩
    simp only [Ev.view, Prod.mk.injEq] at hv
    obtain ⟨hs, hw⟩ := hv
    cases o with
    | wait t =>
      simp only [Ev.step, Ev.view, hs]
      cases hb : b.isSet <;> simp [Ev.isSet, hw] <;> simp_all [Ev.isSet]
    | set =>
      simp only [Ev.step, Ev.view, Ev.isSet, Prod.mk.injEq]
      refine ⟨by simp, ?_⟩
      -- all waiters wait on the current object on both sides, so `set` wakes them all
      have fa : a.waiters.filter (fun w => w.2 != a.gen) = [] := by
        apply List.filter_eq_nil_iff.mpr
        intro w hw'
        simp [ia.1 w hw']
      have fb : b.waiters.filter (fun w => w.2 != b.gen) = [] := by
        apply List.filter_eq_nil_iff.mpr
        intro w hw'
        simp [ib.1 w hw']
      simp [fa, fb]
    | clear =>
      have wa := da.1 rfl
      have wb := db.1 rfl
      simp only [Ev.step, Ev.view, Prod.mk.injEq, if_true, Bool.false_eq_true, if_false]
      refine ⟨?_, by simp [wa, wb]⟩
      rw [isSet_after_clear a, isSet_after_replace b ib]

example : EvRel {} {} := ⟨rfl, ⟨by simp, by simp⟩, ⟨by simp, by simp⟩⟩

/-- sharpness: without the discipline the two semantics differ (a waiter parked on the replaced object is never woken) -/
example : (Ev.runOps false {} [.wait 1, .clear, .set]).view ≠ (Ev.runOps true {} [.wait 1, .clear, .set]).view := by decide +kernel

/-! ### the glue follows the discipline (HTTP/2 send path: `has_data`, `StreamBuffer._paused`, `_is_empty`) -/

/-- Every op of the HTTP/2 send model that clears an event is taken by the event's only possible waiter while it is not
    waiting (`HC.Proto.H2SendEvents.clear_has_no_foreign_waiter`): `_is_empty.clear()` in `push` / in `drain` of a completed buffer by the
    stream's single sender; `_paused.clear()` by the sender after its own `wait()`; `has_data.clear()` by the send task after its
    own `wait()`.  With `event_replace_eq_clear` this is why trio's replace-on-clear wrapper is indistinguishable there.
    (h11's `can_read` is cleared and awaited by the reader alone: `await self.can_read.clear(); await self.can_read.wait()`.) -/
theorem h2_clear_discipline (s s' : HC.Proto.H2Send.St) (o : HC.Proto.H2Send.Op) (h : HC.Proto.H2Send.step s o = some s') :
    (∀ i n, o = .push i n → (s.str i).pusher = .idle) ∧
    (∀ i, o = .end_ i → (s.str i).pusher = .idle) ∧
    (∀ i, o = .pushWake i → (s.str i).pusher = .inPush ∧ (s'.str i).pusher = .idle) ∧
    (o = .wake → s.task = .parked ∧ s'.task = .running) :=
  HC.Proto.H2SendEvents.clear_has_no_foreign_waiter s s' o h

/-! ## the task groups -/

open HC.Stream.AppExit HC.Extracted.AppExit in
/-- the ways an application can end that are the same event in both runtimes (a group holding a cancellation is how a trio
    nursery inside the application reports being cancelled; asyncio delivers a bare `CancelledError` there) -/
def commonExit : HC.Stream.AppExit.Exit → Bool
  | .returned | .exception | .cancelled | .groupErrors => true
  | _ => false

open HC.Stream.AppExit HC.Extracted.AppExit in
/-- **The two `_handle` wrappers (extracted from `asyncio/task_group.py` and `trio/task_group.py`) agree** on every common exit:
    the failure is logged the same number of times, the log comes before completion is signalled, completion IS signalled,
    and the same exits leave `_handle` by an exception.  (They differ in how often `send(None)` is called - trio signals in
    its `except BaseExceptionGroup` clause and again in `finally` - which the next two theorems show to be invisible.) -/
theorem task_groups_agree (e : Exit) (h : commonExit e = true) :
    logs (run asyncioHandle e) = logs (run trioHandle e) ∧
    (run asyncioHandle e).2 = (run trioHandle e).2 ∧
    0 < signals (run asyncioHandle e) ∧ 0 < signals (run trioHandle e) ∧
    (run asyncioHandle e).1.takeWhile (· != .sendNone) = (run trioHandle e).1.takeWhile (· != .sendNone) := by
  cases e <;> first | decide | (simp [commonExit] at h)

open HC.Stream.AppExit HC.Extracted.AppExit in
/-- sharpness: on the exits that are NOT common the extracted wrappers do differ (a mixed group is logged by trio only), so
    the hypothesis of `task_groups_agree` is what the claim rests on -/
example : logs (run asyncioHandle .groupMixed) ≠ logs (run trioHandle .groupMixed) := by decide +kernel

open HC.Stream in
/-- `HTTPStream.app_send(None)`: the first completion signal always hands `StreamClosed` to the protocol, the protocol answers
    with `stream.handle(StreamClosed)`, and from then on a further `app_send(None)` does nothing at all -/
theorem http_second_signal_silent (s : Http.S) (hc : s.closed = false) :
    Http.Ev.streamClosed ∈ (Http.appSend s none).2.1 ∧
    (let s2 := (Http.handle (Http.appSend s none).1 .streamClosed).1
     Http.appSend s2 none = (s2, [], none)) := by
  have hcl : (Http.handle (Http.appSend s none).1 .streamClosed).1.closed = true := by
    unfold Http.handle
    by_cases h : (Http.appSend s none).1.closed <;> simp [h]
  constructor
  · simp only [Http.appSend, hc]
    by_cases h : s.st = .request <;> simp [h]
  · simp only
    generalize (Http.handle (Http.appSend s none).1 .streamClosed).1 = s2 at hcl
    simp [Http.appSend, hcl]

open HC.Stream in
/-- the same for `WSStream.app_send(None)`: unless the 1011 close frame could not be produced (the exception then leaves
    `send(None)`), the first signal emits `StreamClosed`; once the protocol has answered it a second signal is silent -/
theorem ws_second_signal_silent (token : Bytes → Bytes) (ext : Option Bytes) (s : Ws.S) (hc : s.closed = false)
    (hok : (Ws.appSend token ext s none).2.2 = none) :
    Ws.Ev.streamClosed ∈ (Ws.appSend token ext s none).2.1 ∧
    (let s2 := (Ws.handle (Ws.appSend token ext s none).1 .streamClosed).1
     Ws.appSend token ext s2 none = (s2, [], none)) := by
  have hcl : (Ws.handle (Ws.appSend token ext s none).1 .streamClosed).1.closed = true := by
    unfold Ws.handle
    by_cases h : (Ws.appSend token ext s none).1.closed <;> simp [h]
  constructor
  · revert hok
    simp only [Ws.appSend, hc]
    by_cases h1 : s.st = .handshake
    · simp [h1, Ws.errorResponse]
    · by_cases h2 : s.st = .connected
      · simp only [h2]
        generalize Ws.sendWs s (.close 1011) = r
        obtain ⟨s1, e, err⟩ := r
        cases err <;> simp
      · simp [h1, h2]
  · simp only
    generalize (Ws.handle (Ws.appSend token ext s none).1 .streamClosed).1 = s2 at hcl
    simp [Ws.appSend, hcl]

end HC.Props.C16
