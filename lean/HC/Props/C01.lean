import HC.Proto.H11
import HC.Pure.Utils
import HC.Props.C06
import HC.Proto.H2Credit
import HC.Proto.H2DeliverInv
/-!
# C01 — HTTP request delivery fidelity (scope and body reach the application exactly)

Glue-level statements: what `H11Protocol` / `HTTPStream` / `filter_pseudo_headers` do with the events the parser
libraries yield.  That the libraries' events carry the client's bytes (for every segmentation) is library behaviour,
sampled end-to-end with every two-way split of short requests.
-/
namespace HC.Props.C01
open HC HC.Stream HC.Lib HC.Proto.H11 HC.Utils HC.Extracted

/-! ### scope -/

/-- **the split of the request target** (re-decided against the current source: `targetRawPath` / `targetQuery` are the
    expressions `HTTPStream.handle(Request)` puts under `raw_path` / `query_string`, and `path` is the percent-decoded `raw_path`):
    the target is cut at the first `?` and nowhere else - no other character of it (`#`, `;`, a leading `//`, `scheme://host`,
    a second `?`) is interpreted, nothing is dropped -/
theorem target_split_spec (raw : Bytes) :
    ReqGlue.targetRawPath raw = (Bytes.partitionB 63 raw).1 ∧ ReqGlue.targetQuery raw = (Bytes.partitionB 63 raw).2.2 ∧
    (63 : UInt8) ∉ ReqGlue.targetRawPath raw ∧
    (raw = ReqGlue.targetRawPath raw ++ ReqGlue.targetQuery raw ∨ raw = ReqGlue.targetRawPath raw ++ 63 :: ReqGlue.targetQuery raw) ∧
    ((63 : UInt8) ∉ raw → ReqGlue.targetRawPath raw = raw ∧ ReqGlue.targetQuery raw = []) := by
  have h1 : ReqGlue.targetRawPath raw = (Bytes.partitionB 63 raw).1 := by rfl
  have h2 : ReqGlue.targetQuery raw = (Bytes.partitionB 63 raw).2.2 := by rfl
  have hj := Bytes.partitionB_join 63 raw
  rw [h1, h2]
  cases hp : Bytes.partitionB 63 raw with
  | mk h ft =>
    obtain ⟨f, t⟩ := ft
    simp only [hp] at hj
    obtain ⟨j1, j2, j3⟩ := hj
    refine ⟨rfl, rfl, j2, ?_, ?_⟩
    · cases f with
      | true => right; simpa using j1
      | false => left; simpa using j1
    · intro hq
      cases f with
      | true => exfalso; apply hq; rw [j1]; simp
      | false => have := j3 rfl; subst this; simpa using j1.symm

example : ReqGlue.targetRawPath "//cdn/assets/app.js?v=1".b = "//cdn/assets/app.js".b ∧ ReqGlue.targetQuery "/search?q=a#b".b = "q=a#b".b ∧
    ReqGlue.targetRawPath "http://h/p?q".b = "http://h/p".b ∧ ReqGlue.targetQuery "/x?a?b".b = "a?b".b := by decide +kernel

/-- **HTTP/1 scope**: method upper-cased, target split at the first `?` into raw path and query string (nothing lost),
    version and header list passed through (raw pairs when `h11_pass_raw_headers`) -/
theorem scope_h1 (cfg : Cfg) (r : ReqEv) (ws : Bool) :
    let sc := scopeOf cfg r ws
    sc.method = Bytes.toString (Bytes.upper r.method) ∧
    sc.version = Bytes.toString r.version ∧
    sc.headers = (if cfg.rawHeaders then r.rawHeaders else r.headers) ∧
    (63 : UInt8) ∉ sc.rawPath ∧
    (r.target = sc.rawPath ++ sc.query ∨ r.target = sc.rawPath ++ 63 :: sc.query) ∧
    ((63 : UInt8) ∉ r.target → sc.rawPath = r.target ∧ sc.query = []) := by
  obtain ⟨-, -, h2, h1, h3⟩ := target_split_spec r.target
  simp only [scopeOf, decodeAsciiUpper]
  exact ⟨trivial, trivial, trivial, h2, h1, h3⟩

/-- a WebSocket is chosen exactly for GET + `Upgrade: websocket` + a `Connection` token `upgrade` -/
theorem websocket_iff (r : ReqEv) :
    isWebsocketRequest r = true ↔
      ((Bytes.splitOnB 44 (Bytes.lower ((hdr "connection".b r.headers).getD []))).any (fun t => Bytes.stripL1 t == "upgrade".b) = true ∧
       Bytes.lower ((hdr "upgrade".b r.headers).getD []) = "websocket".b ∧ Bytes.upper r.method = "GET".b) := by
  simp [isWebsocketRequest, Bool.and_eq_true, and_assoc]

/-- **HTTP/2 header list**: `host` first, taken from `:authority` (falling back to a `host` header), then every
    non-pseudo, non-host header in order -/
theorem filterPseudo_spec (hs : Headers) :
    ∃ hostv, filterPseudo hs = ("host".b, hostv) :: hs.filter (fun x => x.1 != ":authority".b && x.1 != "host".b && x.1.head? != some 58) ∧
      (∀ a, (hs.reverse.find? (fun x => x.1 == ":authority".b)) = some a → hostv = a.2) ∧
      ((hs.reverse.find? (fun x => x.1 == ":authority".b)) = none →
        hostv = ((hs.reverse.find? (fun x => x.1 == "host".b)).map (·.2)).getD []) := by
  refine ⟨_, rfl, ?_, ?_⟩
  · intro a ha; simp [ha]
  · intro hn; simp [hn]

example : filterPseudo [(":method".b, "GET".b), (":authority".b, "quart".b), (":path".b, "/".b), ("user-agent".b, "x".b), ("host".b, "other".b)]
    = [("host".b, "quart".b), ("user-agent".b, "x".b)] := by decide +kernel
example : filterPseudo [(":path".b, "/".b), ("host".b, "h".b), ("a".b, "1".b), ("a".b, "2".b)] = [("host".b, "h".b), ("a".b, "1".b), ("a".b, "2".b)] := by
  decide +kernel

/-! ### server names: whether an instance is started does not depend on how the client spelt the header names -/

/-- h11 reports every header twice: `event.headers` (names lower-cased) and `headers.raw_items()` (the client's
    spelling, what the scope carries when `h11_pass_raw_headers` is configured) -/
def lowerNames (hs : Headers) : Headers := hs.map (fun h => (Bytes.lower h.1, h.2))

private theorem lowerB_idem (b : UInt8) : Bytes.lowerB (Bytes.lowerB b) = Bytes.lowerB b := by
  unfold Bytes.lowerB
  split
  · rename_i h
    have h32 : (b + 32).toNat = b.toNat + 32 := by
      rw [UInt8.toNat_add]; simp; omega
    rw [if_neg]; rw [h32]; omega
  · rfl

private theorem lower_idem (bs : Bytes) : Bytes.lower (Bytes.lower bs) = Bytes.lower bs := by
  simp [Bytes.lower, lowerB_idem]

/-- the extracted host-header test (`ReqGlue.serverNameKey`, from `utils.valid_server_name`) is case-insensitive -/
theorem server_name_key_caseless (n : Bytes) : ReqGlue.serverNameKey (Bytes.lower n) = ReqGlue.serverNameKey n := by
  simp [ReqGlue.serverNameKey, lower_idem]

/-- … and it recognises exactly the name `host` -/
theorem server_name_key_iff (n : Bytes) : ReqGlue.serverNameKey n = true ↔ Bytes.lower n = "host".b := by
  simp [ReqGlue.serverNameKey]

/-- **the server-name decision is the same for the raw header list and for the lower-cased one** -/
theorem server_name_spelling (cfg : Cfg) (raw : Headers) :
    validServerName cfg (lowerNames raw) = validServerName cfg raw := by
  have hf : ∀ l : Headers, ((lowerNames l).find? (fun h => ReqGlue.serverNameKey h.1)).map (·.2) =
      (l.find? (fun h => ReqGlue.serverNameKey h.1)).map (·.2) := by
    intro l
    induction l with
    | nil => rfl
    | cons a t ih =>
      have ha : ReqGlue.serverNameKey (Bytes.lower a.1) = ReqGlue.serverNameKey a.1 := server_name_key_caseless a.1
      show (List.find? _ ((Bytes.lower a.1, a.2) :: lowerNames t)).map _ = _
      simp only [List.find?_cons, ha]
      cases ReqGlue.serverNameKey a.1
      · exact ih
      · rfl
  simp only [validServerName, hf]

/-- **configuring raw headers changes the header list of the scope, never whether the instance is started**
    (`hraw` is what h11 guarantees about a `Request` event; the harness checks it on every tapped event) -/
theorem server_name_raw_indep (cfg : Cfg) (r : ReqEv) (ws : Bool) (hraw : r.headers = lowerNames r.rawHeaders) :
    validServerName cfg (scopeOf cfg r ws).headers = validServerName cfg r.headers := by
  simp only [scopeOf]
  cases cfg.rawHeaders
  · rfl
  · simp [hraw, server_name_spelling]

example : validServerName { keepAliveMax := 1, rawHeaders := true, serverNames := ["x".b] } [("Host".b, "x".b)] = true := by decide +kernel
example : validServerName { keepAliveMax := 1, serverNames := ["x".b] } [("HOST".b, "y".b), ("host".b, "x".b)] = false := by decide +kernel

/-! ### body: every parser event is forwarded to the live instance, in order, nothing invented -/

/-- a `Data` event for the live HTTP stream `i` puts exactly one `http.request` message carrying those bytes
    (`more_body = True`) to instance `i`, and nothing else -/
theorem data_forwarded (cfg : Cfg) (st : St) (d : Bytes) (i : Nat) (s : Http.S) (lib' : H11M.St)
    (hcur : st.cur = some i) (hobj : st.objs[i]? = some (.http s)) (hclosed : s.closed = false)
    (hl : H11M.recvData st.lib = some lib') :
    onLibEvBody cfg st [] (.data d) = some ({ st with lib := lib' }.setObj i (.http s), [.putHttp i (.request d true)]) := by
  obtain ⟨lib, objs, cur, a4, a5, a6, a7, a8, a9, a10, a11, a12⟩ := st
  simp only at hcur hobj hl
  subst hcur
  simp [onLibEvBody, hl, St.stream, hobj, Http.handle, hclosed, St.setObj]

/-- `EndOfMessage` puts exactly one final message (`more_body = False`, empty body) -/
theorem eom_forwarded (cfg : Cfg) (st : St) (i : Nat) (s : Http.S) (lib' : H11M.St)
    (hcur : st.cur = some i) (hobj : st.objs[i]? = some (.http s)) (hclosed : s.closed = false)
    (hl : H11M.recvEom st.lib = some lib') :
    onLibEvBody cfg st [] .eom = some ({ st with lib := lib', requestComplete := true }.setObj i (.http s), [.putHttp i (.request [] false)]) := by
  obtain ⟨lib, objs, cur, a4, a5, a6, a7, a8, a9, a10, a11, a12⟩ := st
  simp only at hcur hobj hl
  subst hcur
  simp [onLibEvBody, hl, St.stream, hobj, Http.handle, hclosed, St.setObj]

/-- the stream-level transducer for a run of body events: messages = the chunks in order, then one final message -/
def bodyPuts (chunks : List Bytes) (complete : Bool) : List Http.AppMsg :=
  chunks.map (fun c => Http.AppMsg.request c true) ++ (if complete then [Http.AppMsg.request [] false] else [])

def feedBody (s : Http.S) : List Http.In → Http.S × List Http.AppMsg
  | [] => (s, [])
  | i :: is => ((feedBody (Http.handle s i).1 is).1, (Http.handle s i).2.1 ++ (feedBody (Http.handle s i).1 is).2)

theorem body_messages (s : Http.S) (hc : s.closed = false) (chunks : List Bytes) (complete : Bool) :
    (feedBody s (chunks.map Http.In.body ++ (if complete then [Http.In.endBody] else []))).2 = bodyPuts chunks complete ∧
    (feedBody s (chunks.map Http.In.body ++ (if complete then [Http.In.endBody] else []))).1 = s := by
  induction chunks with
  | nil => cases complete <;> simp [feedBody, bodyPuts, Http.handle, hc]
  | cons c cs ih =>
    obtain ⟨ih1, ih2⟩ := ih
    have hstep : Http.handle s (.body c) = (s, [.request c true], []) := by simp [Http.handle, hc]
    simp only [List.map_cons, List.cons_append, feedBody, hstep]
    refine ⟨?_, ih2⟩
    rw [ih1]; simp [bodyPuts]

def concatBodies (ms : List Http.AppMsg) : Bytes :=
  (ms.filterMap (fun m => match m with | .request b _ => some b | _ => none)).flatten

def finals (ms : List Http.AppMsg) : Nat :=
  (ms.filter (fun m => match m with | .request _ false => true | _ => false)).length

/-- **the bodies of the `http.request` messages concatenate to the bytes of the Data events, and there is exactly one
    `more_body = False` message iff the parser reported end-of-message** -/
theorem body_concat (chunks : List Bytes) (complete : Bool) :
    concatBodies (bodyPuts chunks complete) = chunks.flatten ∧
    finals (bodyPuts chunks complete) = (if complete then 1 else 0) := by
  have h1 : ∀ l : List Bytes, (l.map (fun c => Http.AppMsg.request c true)).filterMap
      (fun m => match m with | .request b _ => some b | _ => none) = l := by
    intro l; induction l with
    | nil => rfl
    | cons a t ih => simp [ih]
  have h2 : ∀ l : List Bytes, (l.map (fun c => Http.AppMsg.request c true)).filter
      (fun m => match m with | .request _ false => true | _ => false) = [] := by
    intro l; induction l with
    | nil => rfl
    | cons a t ih => simp [ih]
  constructor
  · cases complete <;> simp [concatBodies, bodyPuts, List.filterMap_append, h1]
  · cases complete <;> simp [finals, bodyPuts, List.filter_append, h2]

/-- **segmentation independence at the glue**: however the parser cuts the same body bytes into Data events, the
    application receives the same bytes and the same completion signal -/
theorem segmentation_indep (c1 c2 : List Bytes) (complete : Bool) (h : c1.flatten = c2.flatten) :
    concatBodies (bodyPuts c1 complete) = concatBodies (bodyPuts c2 complete) ∧
    finals (bodyPuts c1 complete) = finals (bodyPuts c2 complete) := by
  simp [body_concat, h]

/-! ### HTTP/2: every received DATA byte is acknowledged, whether or not its stream is still there -/
open HC.Proto.H2Credit in
/-- handling one `DataReceived` acknowledges exactly its flow-controlled length — also when the response has already
    completed and the stream is forgotten (`KeyError` path).  The counts are extracted from `_handle_events`. -/
theorem data_acked (e : DataEv) : acked e = e.len := by
  cases e with
  | mk len live => cases live <;> simp [acked, ReqGlue.dataAcksDelivered, ReqGlue.dataAcksMissing]

open HC.Proto.H2Credit in
/-- **the connection's receive window is conserved**: after any sequence of DATA events, for live and for completed
    streams in any mix, everything that was consumed has been given back — so the body of a later request on the
    connection can always be sent (the window never leaks away) -/
theorem window_conserved (es : List DataEv) (w : Win) (hw : w.returned = w.consumed) :
    (run w es).returned = (run w es).consumed := by
  induction es generalizing w with
  | nil => exact hw
  | cons e es ih =>
    apply ih
    simp [HC.Proto.H2Credit.step, data_acked, hw]

open HC.Proto.H2Credit in
theorem window_available (es : List DataEv) (w0 : Nat) : (run {} es).available w0 = w0 := by
  have := window_conserved es {} rfl
  simp [Win.available, this]

/-- the acknowledgement names the event's flow-controlled length (padding included) and the event's stream -/
theorem data_ack_args : ReqGlue.dataAckArgs = ["event.flow_controlled_length, event.stream_id"] := by decide +kernel

/-- **exactly one application instance per request**: the handling of a `Request` event for an allowed server name
    spawns exactly one instance and makes its stream the current one (that none was live before is C06 `serial`) -/
theorem one_instance (cfg : Cfg) (st : St) (o0 : List Out) (r : ReqEv) (s1 : St) (o1 : List Out)
    (hsw : checkProtocol r = .none) (hws : isWebsocketRequest r = false) (hname : validServerName cfg (scopeOf cfg r false).headers = true)
    (h : onLibEvBody cfg st o0 (.request r) = some (s1, o1)) :
    s1.spawns = st.spawns + 1 ∧ o1 = o0 ++ [.upUpdated false, .spawn st.objs.length (scopeOf cfg r false)] ∧
    s1.cur = some st.objs.length := by
  simp only [onLibEvBody] at h
  split at h
  · cases h
  · simp only [hsw, hws, hname, Bool.false_eq_true, if_false, if_true, Bool.not_true, Option.some.injEq, Prod.mk.injEq] at h
    obtain ⟨rfl, rfl⟩ := h
    simp [St.newObj]

/-! ### HTTP/2 end to end: h2 events → `H2Protocol` glue → `HTTPStream` → application -/
section H2
open HC.Proto.H2Deliver

/-- the source facts the contents wrapper rests on (read off `h2.py` by `tools/extract_req.py`): the `Request` event of
    `_create_stream`, the header loop that binds `method` / `raw_path`, the `Body` event of a `DataReceived` -/
theorem h2_request_event_assumed :
    ReqGlue.h2RequestArgs = ["stream_id=request.stream_id", "headers=filter_pseudo_headers(request.headers)", "http_version='2'", "method=method",
                             "raw_path=raw_path", "state=self.connection_state"] ∧
    ReqGlue.h2HeaderLoop = ["name == b':method': method = value.decode('ascii').upper()", "name == b':path': raw_path = value"] ∧
    ReqGlue.dataBodyArgs = ["stream_id=event.stream_id", "data=event.data"] := by decide +kernel

/-- **HTTP/2 request delivery, for every interleaving.**  Take any run of the receive side of `H2Protocol` — h2 events of any
    number of streams, PRIORITY / WINDOW_UPDATE / SETTINGS, the applications' `stream_send` calls and the send task's
    iterations in any order, the libraries answering as they may — in which stream `i`, not known before, receives
    `RequestReceived(headers)`, then `DataReceived` events `ds`, then `StreamEnded` iff `complete`; the request is one
    `_create_stream` accepts and the stream is not removed in between (`Adm`: no RST_STREAM for it, connection not closed, its
    application has not finished).  Then stream `i`'s object is created **exactly once** and handed **exactly**: the
    `Request` event built from those headers, then one `Body` per DATA event carrying that event's payload, in order, then
    `EndBody` iff the client ended the stream — nothing else, whatever the other streams did. -/
theorem h2_request_delivered (i kaMax : Nat) (s0 s : HC.Proto.H2Recv.St) (ops : List RxOp) (dl : List Dlv)
    (hrun : rxRun kaMax s0 ops = .ok (s, dl)) (hadm : Adm i kaMax s0 ops) (hfresh : i ∉ s0.streams)
    (hs : Headers) (ins lib : Option HC.Proto.H2Recv.Exn) (ds : List (Bytes × Nat)) (complete : Bool)
    (hrx : ops.filter (rxFor i) = [RxOp.request i hs ins lib] ++ ds.map (fun p => RxOp.data i p.1 p.2) ++
              (if complete then [RxOp.low (.ev (.ended i))] else [])) :
    dlvFor i dl = [Dlv.start i (reqOf i hs).isConnect (requestOf hs)] ++ ds.map (fun p => Dlv.body i p.1) ++
                    (if complete then [Dlv.endBody i] else []) := by
  obtain ⟨h1, _⟩ := deliveries i kaMax ops s0 s dl hrun hadm
  rw [h1, hrx]
  simp only [hfresh, decide_false, List.cons_append, List.nil_append, expectR]
  rw [expectR_live]
  cases complete <;> simp [expectR]

/-- **every DATA frame is acknowledged exactly once** (`acknowledge_received_data(flow_controlled_length, stream_id)`), in
    order, in *every* run — whether the frame's stream is live, was reset, has completed its response, or the connection was
    closed — so the client's connection window is given back in full -/
theorem h2_data_acked (kaMax : Nat) (s0 s : HC.Proto.H2Recv.St) (ops : List RxOp) (dl : List Dlv)
    (hrun : rxRun kaMax s0 ops = .ok (s, dl)) (hok : ∀ op ∈ ops, op.ok = true) :
    acksOf dl = flowsOf ops ∧ ((acksOf dl).map (·.2)).sum = ((flowsOf ops).map (·.2)).sum := by
  have := run_acks kaMax ops s0 s dl hrun hok
  exact ⟨this, by rw [this]⟩

/-- the number of acknowledgements the receive-side model makes per DATA event is the number the extractor counts in the
    source, on both paths (stream there / stream gone) — the link between `HC.Proto.H2Recv` and `HC.Proto.H2Credit` -/
theorem h2_ack_paths (kaMax : Nat) (s : HC.Proto.H2Recv.St) (j : Nat) (d : Bytes) (f : Nat) :
    ∃ s1 d1, rxStep kaMax s (.data j d f) = .ok (s1, d1) ∧ s1 = s ∧
      (acksOf d1).length = (if j ∈ s.streams then ReqGlue.dataAcksDelivered else ReqGlue.dataAcksMissing) ∧
      acksOf d1 = List.replicate (HC.Proto.H2Credit.acked { len := 1, live := decide (j ∈ s.streams) }) (j, f) := by
  by_cases hl : j ∈ s.streams
  · refine ⟨s, [Dlv.body j d, Dlv.ack j f], ?_, rfl, ?_, ?_⟩
    · simp [rxStep, RxOp.abs, HC.Proto.H2Recv.step, HC.Proto.H2Recv.onEvent, hl, decorate]
    · simp [acksOf, hl, ReqGlue.dataAcksDelivered]
    · simp [acksOf, hl, HC.Proto.H2Credit.acked, ReqGlue.dataAcksDelivered]
  · refine ⟨s, [Dlv.ack j f], ?_, rfl, ?_, ?_⟩
    · simp [rxStep, RxOp.abs, HC.Proto.H2Recv.step, HC.Proto.H2Recv.onEvent, hl, decorate, catches_data_keyError]
    · simp [acksOf, hl, ReqGlue.dataAcksMissing]
    · simp [acksOf, hl, HC.Proto.H2Credit.acked, ReqGlue.dataAcksMissing]

/-- the `HTTPStream` created for a `Request` event (the same class serves HTTP/1: cf. `H11.onLibEvBody`) -/
def streamOf (r : Request) (validName : Bool) : Http.S :=
  { method := r.method, version := r.version, reqHeaders := r.headers, hasAppPut := validName, closed := !validName,
    st := if validName then .request else .closed }

/-- what a delivery is for the stream object -/
def toIn : Dlv → Option Http.In
  | .body _ d => some (.body d)
  | .endBody _ => some .endBody
  | .closed _ => some .streamClosed
  | _ => none

/-- **C01 over HTTP/2, end to end in the model**: under the hypotheses of `h2_request_delivered`, for a request that is not a
    CONNECT and names a configured server: exactly one stream object is created for `i`, its scope is (method upper-cased,
    `:path` split at the first `?` with nothing lost, header list `filter_pseudo_headers(headers)`, HTTP version "2"), and the
    `http.request` messages its application is put are exactly the DATA payloads in order (`more_body = True`) followed by
    one final message iff the client ended the stream: the bodies concatenate to what the client sent. -/
theorem h2_request_end_to_end (i kaMax : Nat) (s0 s : HC.Proto.H2Recv.St) (ops : List RxOp) (dl : List Dlv)
    (hrun : rxRun kaMax s0 ops = .ok (s, dl)) (hadm : Adm i kaMax s0 ops) (hfresh : i ∉ s0.streams)
    (hs : Headers) (ins lib : Option HC.Proto.H2Recv.Exn) (ds : List (Bytes × Nat)) (complete : Bool)
    (hrx : ops.filter (rxFor i) = [RxOp.request i hs ins lib] ++ ds.map (fun p => RxOp.data i p.1 p.2) ++
              (if complete then [RxOp.low (.ev (.ended i))] else [])) :
    ∃ rest, dlvFor i dl = Dlv.start i (reqOf i hs).isConnect (requestOf hs) :: rest ∧
      (∀ ws r, Dlv.start i ws r ∉ rest) ∧
      -- the scope
      (HC.Proto.H2Deliver.scopeOf (requestOf hs)).method = Bytes.toString (Bytes.upper ((lastVal hs ":method".b).getD [])) ∧
      (HC.Proto.H2Deliver.scopeOf (requestOf hs)).version = "2" ∧
      (HC.Proto.H2Deliver.scopeOf (requestOf hs)).headers = filterPseudo hs ∧
      (63 : UInt8) ∉ (HC.Proto.H2Deliver.scopeOf (requestOf hs)).rawPath ∧
      ((lastVal hs ":path".b).getD [] = (HC.Proto.H2Deliver.scopeOf (requestOf hs)).rawPath ++ (HC.Proto.H2Deliver.scopeOf (requestOf hs)).query ∨
       (lastVal hs ":path".b).getD [] = (HC.Proto.H2Deliver.scopeOf (requestOf hs)).rawPath ++ 63 :: (HC.Proto.H2Deliver.scopeOf (requestOf hs)).query) ∧
      -- the body
      (feedBody (streamOf (requestOf hs) true) (rest.filterMap toIn)).2 = bodyPuts (ds.map (·.1)) complete ∧
      concatBodies (bodyPuts (ds.map (·.1)) complete) = (ds.map (·.1)).flatten ∧
      finals (bodyPuts (ds.map (·.1)) complete) = (if complete then 1 else 0) := by
  have hd := h2_request_delivered i kaMax s0 s ops dl hrun hadm hfresh hs ins lib ds complete hrx
  refine ⟨ds.map (fun p => Dlv.body i p.1) ++ (if complete then [Dlv.endBody i] else []), by simpa using hd, ?_, rfl, rfl, rfl, ?_, ?_, ?_, ?_⟩
  · intro ws r hmem
    rcases List.mem_append.mp hmem with h | h
    · simp at h
    · cases complete <;> simp at h
  · simp only [HC.Proto.H2Deliver.scopeOf, requestOf]
    exact (target_split_spec _).2.2.1
  · simp only [HC.Proto.H2Deliver.scopeOf, requestOf]
    exact (target_split_spec _).2.2.2.1
  · have hin : (ds.map (fun p => Dlv.body i p.1) ++ (if complete then [Dlv.endBody i] else [])).filterMap toIn =
        (ds.map (·.1)).map Http.In.body ++ (if complete then [Http.In.endBody] else []) := by
      rw [List.filterMap_append]
      congr 1
      · have : ∀ l : List (Bytes × Nat), (l.map (fun p => Dlv.body i p.1)).filterMap toIn = (l.map (·.1)).map Http.In.body := by
          intro l
          induction l with
          | nil => rfl
          | cons p t ih => simp only [List.map_cons, List.filterMap_cons, toIn, ih]
        exact this ds
      · cases complete <;> simp [toIn]
    rw [hin]
    exact (body_messages (streamOf (requestOf hs) true) rfl (ds.map (·.1)) complete).1
  · exact body_concat (ds.map (·.1)) complete

/-- non-vacuity: two streams interleaved, a WINDOW_UPDATE in between, stream 3's application finishing before its last DATA frame
    arrives (still acknowledged), stream 1 complete — the hypotheses of `h2_request_delivered` hold for stream 1 -/
def exRx : List RxOp :=
  [.request 1 [(":method".b, "post".b), (":path".b, "/a?b=1".b), (":authority".b, "x".b), ("x-k".b, "1".b)] none none,
   .request 3 [(":method".b, "PUT".b), (":path".b, "/p".b), (":authority".b, "x".b)] none none,
   .data 1 "ab".b 2, .data 3 "zz".b 5, .low (.ev (.window 0)), .low (.app 3 (.streamClosed false none)), .data 3 "late".b 4,
   .data 1 "c".b 1, .low (.ev (.ended 1)), .low .batchEnd]

example : ∃ s dl, rxRun 10 {} exRx = .ok (s, dl) ∧ admB 1 10 {} exRx = true ∧
    dlvFor 1 dl = [.start 1 false { headers := [("host".b, "x".b), ("x-k".b, "1".b)], version := "2", method := "POST", rawPath := "/a?b=1".b },
                   .body 1 "ab".b, .body 1 "c".b, .endBody 1] ∧
    acksOf dl = [(1, 2), (3, 5), (3, 4), (1, 1)] ∧
    (HC.Proto.H2Deliver.scopeOf (requestOf [(":method".b, "post".b), (":path".b, "/a?b=1".b), (":authority".b, "x".b), ("x-k".b, "1".b)])).query = "b=1".b := by
  refine ⟨_, _, rfl, ?_⟩
  decide +kernel

end H2

end HC.Props.C01
