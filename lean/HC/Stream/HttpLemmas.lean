import HC.Stream.Http
/-!
# `HTTPStream.app_send` as a transition table

`Http.Sent s m o`: the outcomes of `Http.appSend`, one row for every way through that hands something over or assigns
something, one row (`noop`) for the ways through on which a message leaves everything as it is, raising or not;
`sent_appSend` says the table is complete.  The table records control flow and state - which guard, which successor state,
which events in which order - and not where a payload comes from: a statement about every message in every state is proved by
going through the rows (`cases`), a statement about the exact result for a given message computes `appSend`.

Also here: the inversions of `validate_header_part` / `validate_header_name`, and `DecidableEq` for `Except` (core has none),
so that closed instances of the model are facts the kernel evaluates.
-/
namespace HC.Stream.Http
open HC HC.Stream HC.Extracted

deriving instance DecidableEq for Except

theorem _root_.HC.Stream.validatePartBytes_ok {b v : Bytes} (h : validatePartBytes b = .ok v) :
    v = Bytes.strip b ∧ hasCtl v = false := by
  unfold validatePartBytes at h
  split at h
  · cases h
  · rename_i hc; cases h; exact ⟨rfl, by simpa using hc⟩

theorem _root_.HC.Stream.validateNameBytes_ok {b v : Bytes} (h : validateNameBytes b = .ok v) :
    validatePartBytes b = .ok v ∧ nameRefused v = false := by
  unfold validateNameBytes at h
  split at h
  · cases h
  · split at h
    · cases h
    · rename_i hp hr; cases h; exact ⟨hp, by simpa using hr⟩

/-- how `_send_closed` ends after `EndBody`: the access record and `StreamClosed` need `self.response` -/
inductive Closing (s : S) : List Ev → Option PyErr → Prop
  | done {st tr} : s.response = some (st, tr) → Closing s [.access (some st), .streamClosed] none
  | noResponse : s.response = none → Closing s [] (some .attributeError)

theorem sendClosed_eq (s : S) (pre : List Ev) :
    ∃ tail e, Closing s tail e ∧ sendClosed s pre = ({ s with st := .closed }, pre ++ .endBody :: tail, e) := by
  unfold sendClosed
  split
  · exact ⟨_, _, .done ‹_›, by simp⟩
  · exact ⟨_, _, .noResponse ‹_›, by simp⟩

/-- nothing, or one body event (`mk` is the `Body` constructor of the stream's events) -/
inductive _root_.HC.Stream.OneBody {ε : Type} (mk : Bytes → ε) : List ε → Prop
  | none : OneBody mk []
  | one (d : Bytes) : OneBody mk [mk d]

/-- what the body expression of `http.response.body` hands over: nothing, or one `Body` -/
abbrev BodyEvs : List Ev → Prop := OneBody Ev.body

theorem bodyEvs_of_bodyEv {b : Option HV} {evs : List Ev} (h : bodyEv b = .ok evs) : BodyEvs evs := by
  unfold bodyEv at h
  repeat' split at h
  all_goals cases h
  all_goals constructor

/-- the headers of the stream's own 500 -/
def h500 : Headers := [("content-length".b, "0".b), ("connection".b, "close".b)]

/-- the pseudo headers a push promise copies from the request -/
def pushHead (s : S) : Headers :=
  (":scheme".b, s.scheme) :: s.reqHeaders.filterMap (fun h => if h.1 == "host".b then some ((":authority".b, h.2) : Header) else none)

/-- `Sent s m o`: `app_send(m)` in state `s` may come out as `o` -/
inductive Sent (s : S) : Option Msg → Out → Prop
  /-- the application ends on a stream the protocol has closed -/
  | inert : s.closed = true → Sent s none (s, [], none)
  /-- a message that leaves everything as it is: refused (`e` is what is raised: the state or the version does not allow it, a key
      is missing, a value does not validate), or trailers dropped without ending the response -/
  | noop (m : Msg) (e : Option PyErr) : Sent s (some m) (s, [], e)
  /-- the application ends before it started a response -/
  | exit500 : s.closed = false → s.st = .request →
      Sent s none ({ s with st := .closed }, [.response 500 h500, .endBody, .access (some 500), .streamClosed], none)
  /-- the application ends after it started a response, finished or not -/
  | exit : s.closed = false → s.st ≠ .request → Sent s none (s, [.streamClosed], none)
  /-- `http.response.start` whose headers do not validate or whose status is missing: `self.response = message` comes first -/
  | startRefused {status hs tr} (e : PyErr) : s.st = .request →
      Sent s (some (.start status hs tr)) ({ s with response := some (status.getD 0, tr) }, [], some e)
  /-- `http.response.start` -/
  | start {st hs tr vh} : s.st = .request → validateHeaders (hs.getD []) = .ok vh →
      Sent s (some (.start (some st) hs tr)) ({ s with response := some (st, tr), st := .response }, [.response st vh], none)
  /-- `http.response.push` -/
  | push {p hs vh} : inVersions s.version Consts.http_PUSH_VERSIONS = true → s.st ≠ .closed → validateHeaders hs = .ok vh →
      Sent s (some (.push (some (.str p)) (some hs))) (s, [.push p (pushHead s ++ vh)], none)
  /-- `http.response.early_hint` -/
  | hint {ls vs} : inVersions s.version Consts.http_EARLY_HINTS_VERSIONS = true → s.st = .request → validateLinks ls = .ok vs →
      Sent s (some (.earlyHint (some ls))) (s, [.info 103 (vs.map (fun v => ("link".b, v)))], none)
  /-- `http.response.body`: more to come; the last one with trailers announced; the last one -/
  | bodyMore {b evs} : s.st = .response → BodyEvs evs → Sent s (some (.body b true)) (s, evs, none)
  | bodyThenTrailers {b evs} : s.st = .response → BodyEvs evs → Sent s (some (.body b false)) ({ s with st := .trailers }, evs, none)
  | bodyEnd {b evs st} : s.st = .response → s.response = some (st, false) → BodyEvs evs →
      Sent s (some (.body b false)) ({ s with st := .closed }, evs ++ [.endBody, .access (some st), .streamClosed], none)
  /-- trailers before any start, on a request with `te: trailers`: they are sent as the head of a 200 -/
  | trailersFirst {hs vh} : inVersions s.version Consts.http_TRAILERS_VERSIONS = true → s.st = .request → validateHeaders hs = .ok vh →
      teTrailers s = true →
      Sent s (some (.trailers (some hs) true)) ({ s with response := some (200, false), st := .trailers }, [.response 200 vh], none)
  /-- … and that was all of the response -/
  | trailersFirstEnd {hs vh} : inVersions s.version Consts.http_TRAILERS_VERSIONS = true → s.st = .request → validateHeaders hs = .ok vh →
      teTrailers s = true →
      Sent s (some (.trailers (some hs) false))
        ({ s with response := some (200, false), st := .closed }, [.response 200 vh, .endBody, .access (some 200), .streamClosed], none)
  /-- the only rows with a `Trailers` event: the version has trailers and the request said `te: trailers` -/
  | trailers {hs vh} : s.st = .trailers → validateHeaders hs = .ok vh →
      inVersions s.version Consts.http_TRAILERS_VERSIONS = true → teTrailers s = true →
      Sent s (some (.trailers (some hs) true)) (s, [.trailers vh], none)
  /-- … the last ones: the response ends -/
  | trailersEnd {hs vh tail e} : s.st = .trailers → validateHeaders hs = .ok vh → Closing s tail e →
      inVersions s.version Consts.http_TRAILERS_VERSIONS = true → teTrailers s = true →
      Sent s (some (.trailers (some hs) false)) ({ s with st := .closed }, .trailers vh :: .endBody :: tail, e)
  /-- the request did not ask for trailers: they are dropped, the response ends - before it was started, too -/
  | droppedTrailersFirstEnd {hs tail e} : inVersions s.version Consts.http_TRAILERS_VERSIONS = true → s.st = .request → Closing s tail e →
      teTrailers s = false →
      Sent s (some (.trailers hs false)) ({ s with st := .closed }, .endBody :: tail, e)
  /-- … or after the body -/
  | droppedTrailersEnd {hs tail e} : s.st = .trailers → Closing s tail e →
      inVersions s.version Consts.http_TRAILERS_VERSIONS = true → teTrailers s = false →
      Sent s (some (.trailers hs false)) ({ s with st := .closed }, .endBody :: tail, e)

theorem sent_appSend (s : S) (m : Option Msg) : Sent s m (appSend s m) := by
  cases m with
  | none =>
    simp only [appSend]
    split
    · exact .inert ‹_›
    · rename_i hcl
      have hcl : s.closed = false := by simpa using hcl
      split
      · exact .exit500 hcl ‹_›
      · exact .exit hcl ‹_›
  | some m =>
    cases m with
    | start status hs tr =>
      simp only [appSend]
      split
      · split
        · exact .startRefused _ ‹_›
        · split
          · exact .startRefused _ ‹_›
          · exact .start ‹_› ‹_›
      · exact .noop ..
    | push path hs =>
      simp only [appSend]
      split
      · rename_i h
        repeat' split
        all_goals first | exact .noop .. | exact .push (by simpa using h.1) h.2 ‹_›
      · exact .noop ..
    | earlyHint links =>
      simp only [appSend]
      split
      · rename_i h
        repeat' split
        all_goals first | exact .noop .. | exact .hint (by simpa using h.1) h.2 ‹_›
      · exact .noop ..
    | body b more =>
      simp only [appSend]
      split
      · rename_i hst
        split
        · exact .noop ..
        · rename_i status tr hr
          split
          · exact .noop ..
          · rename_i evs he
            have hb : BodyEvs evs := by
              split at he
              · cases he; exact .none
              · exact bodyEvs_of_bodyEv he
            cases more
            · cases tr
              · obtain ⟨tail, e, hc, hd⟩ := sendClosed_eq s evs
                simp only [Bool.false_eq_true, if_false]
                rw [hd]
                cases hc with
                | done h' => rw [hr] at h'; cases h'; exact .bodyEnd hst hr hb
                | noResponse h' => rw [hr] at h'; cases h'
              · exact .bodyThenTrailers hst hb
            · exact .bodyMore hst hb
      · exact .noop ..
    | trailers hs more =>
      cases more <;> simp only [appSend, Bool.false_eq_true, if_false, if_true]
      · -- the final message ends the response on every way through that does not raise
        obtain ⟨tail, e, hc, hd⟩ := sendClosed_eq s []
        split
        · rename_i h
          split
          · rename_i hte
            repeat' split
            · exact .noop ..
            · exact .noop ..
            · simp only [sendClosed]; exact .trailersFirstEnd h.1 h.2 ‹_› hte
          · rename_i hte
            rw [hd]; exact .droppedTrailersFirstEnd h.1 h.2 hc (by simpa using hte)
        · split
          · rename_i h
            split
            · rename_i hte
              repeat' split
              · exact .noop ..
              · exact .noop ..
              · rename_i vh _
                obtain ⟨tail, e, hc, hd⟩ := sendClosed_eq s [.trailers vh]
                rw [hd]; exact .trailersEnd h.2 ‹_› hc h.1 hte
            · rename_i hte
              rw [hd]; exact .droppedTrailersEnd h.2 hc h.1 (by simpa using hte)
          · exact .noop ..
      · split
        · rename_i h
          split
          · rename_i hte
            repeat' split
            all_goals first | exact .noop .. | exact .trailersFirst h.1 h.2 ‹_› hte
          · exact .noop ..
        · split
          · rename_i h
            split
            · rename_i hte
              repeat' split
              all_goals first | exact .noop .. | exact .trailers h.2 ‹_› h.1 hte
            · exact .noop ..
          · exact .noop ..
    | other => exact .noop ..

/-- the one way `app_send` raises after it has handed something over: the last trailers message on a stream that has no
    `self.response` (in TRAILERS only if no start was recorded; in REQUEST when the version has trailers) -/
def EndsWithoutResponse (s : S) (m : Option Msg) : Prop :=
  s.response = none ∧ (∃ hs, m = some (.trailers hs false)) ∧
    (s.st = .trailers ∨ (s.st = .request ∧ inVersions s.version Consts.http_TRAILERS_VERSIONS = true))

/-- a row that raises hands nothing over and assigns at most `self.response` (a refused start, in REQUEST) -/
theorem Sent.raises_quiet {s s' : S} {m : Option Msg} {evs : List Ev} {e : PyErr} (h : Sent s m (s', evs, some e))
    (hq : ¬ EndsWithoutResponse s m) :
    evs = [] ∧ s'.st = s.st ∧ s'.closed = s.closed ∧ (s' = s ∨ (s.st = .request ∧ ∃ r, s' = { s with response := some r })) := by
  cases h with
  | noop => exact ⟨rfl, rfl, rfl, .inl rfl⟩
  | startRefused _ hst => exact ⟨rfl, rfl, rfl, .inr ⟨hst, _, rfl⟩⟩
  | trailersEnd hst _ hc _ _ => cases hc with | noResponse hr => exact absurd ⟨hr, ⟨_, rfl⟩, .inl hst⟩ hq
  | droppedTrailersFirstEnd hv hst hc _ => cases hc with | noResponse hr => exact absurd ⟨hr, ⟨_, rfl⟩, .inr ⟨hst, hv⟩⟩ hq
  | droppedTrailersEnd hst hc _ _ => cases hc with | noResponse hr => exact absurd ⟨hr, ⟨_, rfl⟩, .inl hst⟩ hq

end HC.Stream.Http
