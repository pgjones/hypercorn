import HC.Stream.Ws
import HC.Stream.WsSpec
import HC.Stream.HttpLemmas
/-!
# `WSStream.app_send` and `WSStream.handle` as transition tables

`Ws.Sent token ext s m o` has one row for every way through `Ws.appSend`, with `_send_wsproto_event` (`WsSent`) and
`_send_rejection` (`Rejected`) as tables of their own; `sent_appSend` says the table is complete.  A statement about every
message in every state is proved by going through the rows (`cases`), without unfolding `appSend` again.  `Handled` is the
same for the protocol-facing side; `Stepped` is the body of the loop of `_handle_events`, and `handleEvents_induct` turns a
statement about the loop body that composes into one about every batch of events.  The tables record control flow and
state, not where a payload comes from (`send`: some payload `p`; `Rejected`: some status, headers, body): a statement about
the exact result for a given message computes the function.
-/
namespace HC.Stream.Ws
open HC HC.Stream HC.Extracted

theorem validateExtra_cons_ok {x : Header} {rest r : Headers} :
    validateExtra (x :: rest) = .ok r ↔
      ∃ n v r', validateNameBytes x.1 = .ok n ∧ n ≠ "sec-websocket-protocol".b ∧ validatePartBytes x.2 = .ok v ∧
        validateExtra rest = .ok r' ∧ r = (n, v) :: r' := by
  simp only [validateExtra]
  cases validateNameBytes x.1 with
  | error e => simp
  | ok n =>
    by_cases hp : (n == "sec-websocket-protocol".b) = true
    · simp [show n = "sec-websocket-protocol".b by simpa using hp]
    · simp only [hp, Bool.false_eq_true, if_false, Except.bind_eq_ok, pure, Except.pure, Except.ok.injEq]
      have hp' : n ≠ "sec-websocket-protocol".b := by simpa using hp
      constructor
      · rintro ⟨v, hv, r', hr, rfl⟩; exact ⟨n, v, r', rfl, hp', hv, hr, rfl⟩
      · rintro ⟨_, v, r', rfl, _, hv, hr, rfl⟩; exact ⟨v, hv, r', hr, rfl⟩

/-- `if self.length > self.max_length: raise FrameTooLargeError()` comes before anything is written -/
theorem Buffer.extend_over_limit (b : Buffer) (p : Payload) (h : Guards.wsBufferCmp.eval b.length b.maxLength = true) :
    b.extend p = (b, some .tooLarge) := by
  simp [Buffer.extend, h]

/-! ### `Handshake.__init__`, one header at a time -/

/-- the six header names `Handshake.__init__` looks for are pairwise different -/
theorem handshake_names_distinct :
    ["connection".b, "sec-websocket-extensions".b, "sec-websocket-key".b, "sec-websocket-protocol".b, "sec-websocket-version".b,
      "upgrade".b].Pairwise (fun a b => a ≠ b ∧ b ≠ a) := by decide +kernel

/-- `Scanned h n v h'`: the loop body of `Handshake.__init__` takes the handshake object `h` to `h'` on the header `(n, v)` -/
inductive Scanned (h : Handshake) (n v : Bytes) : Handshake → Prop
  | connection : Bytes.lower n = "connection".b → isAscii v = true → Scanned h n v { h with connectionTokens := some (tokens v) }
  | extensions : Bytes.lower n = "sec-websocket-extensions".b → isAscii v = true → Scanned h n v { h with extensions := some (tokens v) }
  | subprotocols : Bytes.lower n = "sec-websocket-protocol".b → isAscii v = true → Scanned h n v { h with subprotocols := some (tokens v) }
  /-- `split_comma_header` raised `UnicodeDecodeError` -/
  | malformed : isCommaHeader n = true → isAscii v = false → Scanned h n v { h with malformed := true }
  | key : Bytes.lower n = "sec-websocket-key".b → Scanned h n v { h with key := some v }
  | wsVersion : Bytes.lower n = "sec-websocket-version".b → Scanned h n v { h with wsVersion := some v }
  | upgrade : Bytes.lower n = "upgrade".b → Scanned h n v { h with upgrade := some v }
  | other : (∀ name ∈ ["connection".b, "sec-websocket-extensions".b, "sec-websocket-key".b, "sec-websocket-protocol".b,
      "sec-websocket-version".b, "upgrade".b], Bytes.lower n ≠ name) → Scanned h n v h

/-- a comma-list header: `split_comma_header` gives the tokens, or raises `UnicodeDecodeError`, which is caught -/
private theorem scan_comma (h : Handshake) (n v : Bytes) (rest : Headers) (f : List Bytes → Handshake)
    (hc : isCommaHeader n = true) (hrow : isAscii v = true → Scanned h n v (f (tokens v))) :
    ∃ h', Scanned h n v h' ∧
      (match splitCommaHeader v with
       | .ok t => Handshake.scan (f t) rest
       | .error _ => Handshake.scan { h with malformed := true } rest) = Handshake.scan h' rest := by
  unfold splitCommaHeader
  by_cases ha : isAscii v = true
  · exact ⟨_, hrow ha, by simp only [ha, if_true]; rfl⟩
  · exact ⟨_, .malformed hc (by simpa using ha), by simp only [ha]; rfl⟩

/- (the tests are taken one at a time with `if_pos` / `if_neg`: `split` / `rw` would evaluate the string literals through
   `isDefEq`, which is slow to check) -/
theorem scan_cons (hl : Handshake.NamesLowered) (h : Handshake) (n v : Bytes) (rest : Headers) :
    ∃ h', Scanned h n v h' ∧ Handshake.scan h ((n, v) :: rest) = Handshake.scan h' rest := by
  simp only [Handshake.scan, hl _, beq_iff_eq]
  by_cases e1 : Bytes.lower n = "connection".b
  · simp only [if_pos e1]
    exact scan_comma h n v rest (fun t => { h with connectionTokens := some t }) (by simp [isCommaHeader, e1]) (.connection e1)
  simp only [if_neg e1]
  by_cases e2 : Bytes.lower n = "sec-websocket-extensions".b
  · simp only [if_pos e2]
    exact scan_comma h n v rest (fun t => { h with extensions := some t }) (by simp [isCommaHeader, e2]) (.extensions e2)
  simp only [if_neg e2]
  by_cases e3 : Bytes.lower n = "sec-websocket-key".b
  · exact ⟨_, .key e3, by simp only [if_pos e3]⟩
  simp only [if_neg e3]
  by_cases e4 : Bytes.lower n = "sec-websocket-protocol".b
  · simp only [if_pos e4]
    exact scan_comma h n v rest (fun t => { h with subprotocols := some t }) (by simp [isCommaHeader, e4]) (.subprotocols e4)
  simp only [if_neg e4]
  by_cases e5 : Bytes.lower n = "sec-websocket-version".b
  · exact ⟨_, .wsVersion e5, by simp only [if_pos e5]⟩
  simp only [if_neg e5]
  by_cases e6 : Bytes.lower n = "upgrade".b
  · exact ⟨_, .upgrade e6, by simp only [if_pos e6]⟩
  exact ⟨_, .other (by simp [e1, e2, e3, e4, e5, e6]), by simp only [if_neg e6]⟩

/-- a non-ASCII comma-list header takes the row `malformed`: the other rows are for an ASCII value or for another name -/
theorem Scanned.malformed_of_non_ascii {h h' : Handshake} {n v : Bytes} (hs : Scanned h n v h')
    (hc : isCommaHeader n = true) (hna : isAscii v = false) : h'.malformed = true := by
  have hd := handshake_names_distinct
  simp only [List.pairwise_cons, List.forall_mem_cons, List.not_mem_nil, false_imp_iff, implies_true, and_true, List.Pairwise.nil] at hd
  cases hs with
  | connection _ ha | extensions _ ha | subprotocols _ ha => rw [ha] at hna; cases hna
  | malformed => rfl
  | key e | wsVersion e | upgrade e => simp [isCommaHeader, e, hd] at hc
  | other ho => simp only [List.forall_mem_cons, List.not_mem_nil, false_imp_iff, implies_true, and_true] at ho; simp [isCommaHeader, ho] at hc

/-- `_send_wsproto_event`, with wsproto's `Connection.send` spelt out: without a connection object `AttributeError`; only an OPEN
    connection sends, and a close frame is also the answer to the client's close; anything else is a `LocalProtocolError`,
    which is swallowed -/
inductive WsSent (s : S) (o : WsOut) : Out → Prop
  | noConn : s.conn = none → WsSent s o (s, [], some .attributeError)
  | refused {c} : s.conn = some c → c ≠ .open → (c = .remoteClosing → ∀ k, o ≠ .close k) → WsSent s o (s, [], none)
  | sent : s.conn = some .open → (∀ k, o ≠ .close k) → WsSent s o ({ s with conn := some .open }, [.data o], none)
  | sentClose {k} : s.conn = some .open → o = .close k → WsSent s o ({ s with conn := some .localClosing }, [.data o], none)
  | echoedClose {k} : s.conn = some .remoteClosing → o = .close k → WsSent s o ({ s with conn := some .closed }, [.data o], none)

theorem wsSent_sendWs (s : S) (o : WsOut) : WsSent s o (sendWs s o) := by
  unfold sendWs
  cases hc : s.conn with
  | none => exact .noConn hc
  | some c =>
    cases c with
    | «open» => cases o <;> first | exact .sentClose hc rfl | exact .sent hc (by simp)
    | remoteClosing => cases o <;> first | exact .echoedClose hc rfl | exact .refused hc (by simp) (by simp)
    | localClosing | closed => cases o <;> exact .refused hc (by simp) (by simp)

/-- `_send_wsproto_event` touches nothing but wsproto's state; with a connection object it does not raise and leaves one -/
theorem WsSent.keeps {s : S} {o : WsOut} {s1 : S} {e : List Ev} {err : Option PyErr} (h : WsSent s o (s1, e, err)) :
    s1.buffer = s.buffer ∧ s1.hs = s.hs ∧ s1.closed = s.closed ∧ s1.st = s.st ∧
    (s.conn.isSome = true → s1.conn.isSome = true ∧ err = none) := by
  cases h <;> simp_all

/-- the body of a denial response as it is handed over: nothing (1xx / 204 / 304) or one `Body` -/
abbrev DenialBody : List Ev → Prop := OneBody Ev.body

/-- `_send_rejection`: in HANDSHAKE the head goes first (RESPONSE); the last body message ends the response (HTTPCLOSED) -/
inductive Rejected (s : S) : Out → Prop
  | refused (e : PyErr) : Rejected s (s, [], some e)
  | headPart {status vh b} : s.st = .handshake → DenialBody b → Rejected s ({ s with st := .response }, .response status vh :: b, none)
  | headLast {status vh b} : s.st = .handshake → DenialBody b →
      Rejected s ({ s with st := .httpClosed }, .response status vh :: b ++ [.endBody, .access status], none)
  | part {b} : s.st ≠ .handshake → DenialBody b → Rejected s (s, b, none)
  | last {status b} : s.st ≠ .handshake → DenialBody b → Rejected s ({ s with st := .httpClosed }, b ++ [.endBody, .access status], none)

theorem denialHead_cases (s : S) (status : Nat) (headers : Option (List (HV × HV))) :
    (∃ e, denialHead s status headers = .error e) ∨
    (s.st = .handshake ∧ ∃ vh, denialHead s status headers = .ok ({ s with st := .response }, [.response status vh])) ∨
    (s.st ≠ .handshake ∧ denialHead s status headers = .ok (s, [])) := by
  unfold denialHead
  split
  · rename_i hst
    repeat' split
    · exact .inl ⟨_, rfl⟩
    · exact .inl ⟨_, rfl⟩
    · exact .inr (.inl ⟨hst, _, rfl⟩)
  · exact .inr (.inr ⟨‹_›, rfl⟩)

theorem rejected_sendRejection (s : S) (body : Option HV) (more : Bool) : Rejected s (sendRejection s body more) := by
  unfold sendRejection
  split
  · exact .refused _
  · exact .refused _
  · rename_i status headers _
    split
    · exact .refused _
    · rename_i b _
      have hb : DenialBody (if Guards.suppressBody "GET" status = true then [] else [Ev.body b]) := by
        split
        · exact .none
        · exact .one b
      rcases denialHead_cases s status headers with ⟨e, h⟩ | ⟨hst, vh, h⟩ | ⟨hst, h⟩ <;> rw [h] <;> simp only
      · exact .refused _
      · cases more
        · exact .headLast hst hb
        · exact .headPart hst hb
      · cases more
        · exact .last hst hb
        · exact .part hst hb

/-- the state `app_send` takes a message in (`UnexpectedMessageError` otherwise) -/
def expected (s : S) : Msg → Bool
  | .accept .. => s.st == .handshake
  | .respStart .. => s.st == .handshake
  | .respBody .. => s.st == .handshake || s.st == .response
  | .send .. => s.st == .connected
  | .close .. => s.st == .handshake || s.st == .connected
  | .other => false

/-- why `app_send` raises before it has done anything (`_send_rejection` has refusals of its own: `Rejected.refused`) -/
inductive Refused (token : Bytes → Bytes) (ext : Option Bytes) (s : S) : Option Msg → PyErr → Prop
  | unexpected (m : Msg) : expected s m = false → Refused token ext s (some m) .unexpectedMessage
  | accept {sp extra e} : s.st = .handshake → s.hs.accept token ext sp extra = .error e → Refused token ext s (some (.accept sp extra)) e
  /-- neither `bytes` nor `text` is what it has to be -/
  | send {bytes text} (e : PyErr) : s.st = .connected → Refused token ext s (some (.send bytes text)) e
  /-- the close frame cannot be built -/
  | close {code reason e} : s.st = .connected → closeArgs s code reason = .error e → Refused token ext s (some (.close code reason)) e
  /-- the application ends in CONNECTED without a connection object -/
  | noConn : s.st = .connected → s.conn = none → Refused token ext s none .attributeError

/-- `Sent token ext s m o`: `app_send(m)` in state `s` may come out as `o` -/
inductive Sent (token : Bytes → Bytes) (ext : Option Bytes) (s : S) : Option Msg → Out → Prop
  /-- the protocol has closed the stream: nothing is looked at -/
  | inert (m : Option Msg) : s.closed = true → Sent token ext s m (s, [], none)
  | refused {m e} : s.closed = false → Refused token ext s m e → Sent token ext s m (s, [], some e)
  | exit500 : s.closed = false → s.st = .handshake →
      Sent token ext s none ({ s with st := .httpClosed }, errorResponse 500 ++ [.streamClosed], none)
  | exit1011 {s1 e} : s.closed = false → s.st = .connected → WsSent s (.close 1011) (s1, e, none) →
      Sent token ext s none (s1, e ++ [.streamClosed], none)
  | exit : s.closed = false → s.st ≠ .handshake → s.st ≠ .connected → Sent token ext s none (s, [.streamClosed], none)
  | accept {sp extra status hdrs} : s.closed = false → s.st = .handshake → s.hs.accept token ext sp extra = .ok (status, hdrs) →
      Sent token ext s (some (.accept sp extra))
        ({ s with st := .connected, hs := { s.hs with accepted := true }, conn := some .open },
         [.response status hdrs, .access status] ++ (if s.pingInterval then [.spawnPings] else []), none)
  | respStart {status headers} : s.closed = false → s.st = .handshake →
      Sent token ext s (some (.respStart status headers)) ({ s with response := some (status, headers) }, [], none)
  | respBody {body more o} : s.closed = false → s.st = .handshake ∨ s.st = .response → Rejected s o →
      Sent token ext s (some (.respBody body more)) o
  | send {bytes text p o} : s.closed = false → s.st = .connected → WsSent s (.message p) o → Sent token ext s (some (.send bytes text)) o
  | close403 {code reason} : s.closed = false → s.st = .handshake →
      Sent token ext s (some (.close code reason)) ({ s with st := .httpClosed }, errorResponse 403, none)
  /-- `self.state = CLOSED` once the frame can be built, before it is handed to wsproto -/
  | close {code reason k s1 e} : s.closed = false → s.st = .connected → closeArgs s code reason = .ok k →
      WsSent { s with st := .closed } (.close k) (s1, e, none) →
      Sent token ext s (some (.close code reason)) (s1, e ++ [.endData], none)

theorem sent_appSend (token : Bytes → Bytes) (ext : Option Bytes) (s : S) (m : Option Msg) :
    Sent token ext s m (appSend token ext s m) := by
  unfold appSend
  split
  · exact .inert m ‹_›
  · rename_i hcl
    have hcl : s.closed = false := by simpa using hcl
    cases m with
    | none =>
      simp only
      split
      · exact .exit500 hcl ‹_›
      · split
        · rename_i hst
          have hw := wsSent_sendWs s (.close 1011)
          generalize sendWs s (.close 1011) = r at hw ⊢
          obtain ⟨s1, e, err⟩ := r
          cases err with
          | some x => cases hw with | noConn hn => exact .refused hcl (.noConn hst hn)
          | none => exact .exit1011 hcl hst hw
        · exact .exit hcl ‹_› ‹_›
    | some m =>
      cases m with
      | accept sp extra =>
        simp only
        split
        · split
          · exact .refused hcl (.accept ‹_› ‹_›)
          · exact .accept hcl ‹_› ‹_›
        · exact .refused hcl (.unexpected _ (by simp [expected, *]))
      | respStart status headers =>
        simp only
        split
        · exact .respStart hcl ‹_›
        · exact .refused hcl (.unexpected _ (by simp [expected, *]))
      | respBody body more =>
        simp only
        split
        · exact .respBody hcl ‹_› (rejected_sendRejection s body more)
        · exact .refused hcl (.unexpected _ (by simp_all [expected]))
      | send bytes text =>
        simp only
        split
        · split
          · exact .refused hcl (.send _ ‹_›)
          · exact .send hcl ‹_› (wsSent_sendWs s _)
        · exact .refused hcl (.unexpected _ (by simp [expected, *]))
      | close code reason =>
        simp only
        split
        · exact .close403 hcl ‹_›
        · split
          · exact .refused hcl (.unexpected _ (by simp_all [expected]))
          · rename_i hne hc
            have hst : s.st = .connected := by simpa using hc
            split
            · exact .refused hcl (.close hst ‹_›)
            · rename_i k hk
              have hw := wsSent_sendWs { s with st := .closed } (.close k)
              generalize sendWs { s with st := .closed } (.close k) = r at hw ⊢
              obtain ⟨s1, e, err⟩ := r
              cases err with
              | some x =>
                -- `closeArgs` has already found the connection object
                cases hw with
                | noConn h => simp [closeArgs, show s.conn = none from h] at hk; split at hk <;> simp at hk
              | none => exact .close hcl hst hk hw
      | other => exact .refused hcl (.unexpected _ rfl)

/-- a row that raises hands nothing over and assigns nothing -/
theorem Sent.raises_quiet {token : Bytes → Bytes} {ext : Option Bytes} {s s' : S} {m : Option Msg} {evs : List Ev} {e : PyErr}
    (h : Sent token ext s m (s', evs, some e)) : evs = [] ∧ s' = s := by
  cases h with
  | refused => exact ⟨rfl, rfl⟩
  | respBody _ _ hr => cases hr; exact ⟨rfl, rfl⟩
  | send _ _ hw => cases hw; exact ⟨rfl, rfl⟩

/-- what a row may move.  `_accept` alone sets `accepted`, creates the connection object and enters CONNECTED; every other row
    keeps the handshake and a connection object once there is one, HANDSHAKE and CONNECTED are never entered, CLOSED is entered
    from CONNECTED only, and a message (not the application's end, which may send the 1011) that leaves the stream in
    CONNECTED leaves wsproto's state as it was -/
theorem Sent.moves {token : Bytes → Bytes} {ext : Option Bytes} {s s' : S} {m : Option Msg} {evs : List Ev} {err : Option PyErr}
    (h : Sent token ext s m (s', evs, err)) :
    s'.closed = s.closed ∧ s'.buffer = s.buffer ∧
    ((s.st = .handshake ∧ s'.st = .connected ∧ s'.hs = { s.hs with accepted := true } ∧ s'.conn = some .open) ∨
     (s'.hs = s.hs ∧ (s.conn.isSome = true → s'.conn.isSome = true) ∧ (s'.st = .handshake → s.st = .handshake) ∧
      (s'.st = .connected → s.st = .connected) ∧ (s'.st = .closed → s.st = .connected ∨ s.st = .closed) ∧
      (s'.st = .connected → m.isSome = true → s'.conn = s.conn))) := by
  cases h <;> (try cases ‹WsSent ..›) <;> (try cases ‹Rejected ..›) <;> simp_all

/-- a `websocket.close` that raises in CONNECTED is one whose close frame cannot be built -/
theorem Sent.close_raises {token : Bytes → Bytes} {ext : Option Bytes} {s s' : S} {code : CloseCode} {reason : Option HV}
    {evs : List Ev} {e : PyErr} (h : Sent token ext s (some (.close code reason)) (s', evs, some e)) (hst : s.st = .connected) :
    closeArgs s code reason = .error e := by
  cases h with
  | refused _ hr =>
    cases hr with
    | unexpected _ hx => simp [expected, hst] at hx
    | close _ hk => exact hk

/-- `Handled s i o`: `handle(i)` in state `s` comes out as `o` -/
inductive Handled (s : S) : In → S × List AppMsg × List Ev × Option PyErr → Prop
  | closed (i : In) : s.closed = true → Handled s i (s, [], [], none)
  /-- data before the application answered the handshake: 400, `_close_after_error` -/
  | early {evs} : s.closed = false → s.hs.accepted = false → s.st = .handshake →
      Handled s (.data evs)
        ({ s with closed := true }, if s.hasAppPut then [.disconnect 1006] else [], errorResponse 400 ++ [.spawnClose], none)
  | ignored {evs} : s.closed = false → s.hs.accepted = false → s.st ≠ .handshake → Handled s (.data evs) (s, [], [], none)
  | events {evs} : s.closed = false → s.hs.accepted = true → Handled s (.data evs) (handleEvents s evs)
  | lost : s.closed = false →
      Handled s .streamClosed
        ({ s with closed := true },
         if s.hasAppPut then [.disconnect (if s.st = .httpClosed ∨ s.st = .closed then 1000 else s.clientCloseCode.getD 1006)] else [],
         [], none)

theorem handled_handle (s : S) (i : In) : Handled s i (handle s i) := by
  unfold handle
  split
  · exact .closed i ‹_›
  · rename_i hcl
    have hcl : s.closed = false := by simpa using hcl
    cases i with
    | streamClosed => exact .lost hcl
    | data evs =>
      simp only
      split
      · rename_i hacc
        have hacc : s.hs.accepted = false := by simpa using hacc
        split
        · exact .early hcl hacc ‹_›
        · exact .ignored hcl hacc ‹_›
      · rename_i hacc
        exact .events hcl (by simpa using hacc)

/-! ### `_handle_events`, one event at a time -/

theorem handleEvents_eq_runEvs (evs : List WsEv) : ∀ s : S, handleEvents s evs = (runEvs s evs).1 := by
  induction evs with
  | nil => intro s; rfl
  | cons ev rest ih =>
    intro s
    cases ev with
    | message p fin =>
      rcases hx : s.buffer.extend p with ⟨b, oe⟩
      cases oe with
      | none =>
        cases fin <;> simp [handleEvents, runEvs, stepEv, hx, ih, HOut.seq] <;> cases b.value <;> rfl
      | some e => cases e <;> simp [handleEvents, runEvs, stepEv, hx]
    | ping payload =>
      rcases hx : sendWs s (.pong payload) with ⟨s1, e, err⟩
      cases err <;> simp [handleEvents, runEvs, stepEv, hx, ih, HOut.seq]
    | pong payload => simp [handleEvents, runEvs, stepEv, ih, HOut.seq]
    | close code =>
      simp only [handleEvents, runEvs, stepEv]
      split <;> simp_all [HOut.seq]
    | failed code =>
      simp only [handleEvents, runEvs, stepEv]
      split <;> simp_all [HOut.seq]

/-- `Stepped s ev r go`: the body of the loop of `_handle_events` on the event `ev` comes out as `r`; `go` = the loop goes on -/
inductive Stepped (s : S) : WsEv → HOut → Bool → Prop
  /-- `FrameTooLargeError`: close 1009, `break` -/
  | tooLarge {p fin b s1 e err} : s.buffer.extend p = (b, some .tooLarge) → WsSent { s with buffer := b } (.close 1009) (s1, e, err) →
      Stepped s (.message p fin) (s1, [], e, err) false
  | typeError {p fin b} : s.buffer.extend p = (b, some .typeError) →
      Stepped s (.message p fin) ({ s with buffer := b }, [], [], some .typeError) false
  | final {p b} : s.buffer.extend p = (b, none) →
      Stepped s (.message p true)
        ({ s with buffer := b.clear }, (match b.value with | some v => [AppMsg.receive v] | none => []), [], none) true
  | fragment {p b} : s.buffer.extend p = (b, none) → Stepped s (.message p false) ({ s with buffer := b }, [], [], none) true
  | ping {payload s1 e err} : WsSent s (.pong payload) (s1, e, err) → Stepped s (.ping payload) (s1, [], e, err) err.isNone
  | pong {payload} : Stepped s (.pong payload) (s, [], [], none) true
  /-- a close that wsproto reports in REMOTE_CLOSING (it was OPEN, or was REMOTE_CLOSING already): the code is recorded, the
      close is echoed -/
  | closeEchoed {code} : s.conn = some .open ∨ s.conn = some .remoteClosing →
      Stepped s (.close code)
        ({ s with conn := some .closed, clientCloseCode := some code }, [], [.data (.close code), .streamClosed], none) true
  /-- the client's answer to the server's close, or a close frame when there is nothing to answer -/
  | closeQuiet {code} : s.conn ≠ some .open → s.conn ≠ some .remoteClosing →
      Stepped s (.close code) ({ s with conn := s.conn.map connRecvClose }, [], [.streamClosed], none) true
  /-- `ParseFailed`: wsproto's state has not moved -/
  | failedEchoed {code} : s.conn = some .remoteClosing →
      Stepped s (.failed code)
        ({ s with conn := some .closed, clientCloseCode := some code }, [], [.data (.close code), .streamClosed], none) true
  | failed {code} : s.conn ≠ some .remoteClosing → Stepped s (.failed code) (s, [], [.streamClosed], none) true

theorem stepped_stepEv (s : S) (ev : WsEv) : Stepped s ev (stepEv s ev).1 (stepEv s ev).2 := by
  cases ev with
  | message p fin =>
    simp only [stepEv]
    split
    · rename_i b hx
      have hw := wsSent_sendWs { s with buffer := b } (.close 1009)
      generalize sendWs { s with buffer := b } (.close 1009) = r at hw ⊢
      obtain ⟨s1, e, err⟩ := r
      exact .tooLarge hx hw
    · exact .typeError ‹_›
    · cases fin
      · exact .fragment ‹_›
      · exact .final ‹_›
  | ping payload =>
    simp only [stepEv]
    have hw := wsSent_sendWs s (.pong payload)
    generalize sendWs s (.pong payload) = r at hw ⊢
    obtain ⟨s1, e, err⟩ := r
    exact .ping hw
  | pong payload => exact .pong
  | close code =>
    cases hc : s.conn with
    | none => simpa [stepEv, hc] using Stepped.closeQuiet (s := s) (code := code) (by simp [hc]) (by simp [hc])
    | some c =>
      cases c with
      | «open» => simpa [stepEv, hc, connRecvClose, sendWs, connSend] using Stepped.closeEchoed (s := s) (code := code) (.inl hc)
      | remoteClosing =>
        simpa [stepEv, hc, connRecvClose, sendWs, connSend] using Stepped.closeEchoed (s := s) (code := code) (.inr hc)
      | localClosing | closed =>
        simpa [stepEv, hc, connRecvClose] using Stepped.closeQuiet (s := s) (code := code) (by simp [hc]) (by simp [hc])
  | failed code =>
    by_cases hr : s.conn = some .remoteClosing
    · simpa [stepEv, hr, sendWs, connSend] using Stepped.failedEchoed (s := s) (code := code) hr
    · simpa [stepEv, hr] using Stepped.failed (s := s) (code := code) hr

/-- a relation between the stream before a batch, the events of the batch and what `_handle_events` makes of them holds for every
    batch when it holds for no event, holds for the loop body on every event (whatever is left of the batch when the loop stops
    there), and composes.  `P` is what the loop body may assume of the stream. -/
theorem handleEvents_induct {P : S → Prop} {R : S → List WsEv → HOut → Prop}
    (hnil : ∀ s, P s → R s [] (s, [], [], none))
    (hstep : ∀ s ev rest, P s → R s (if (stepEv s ev).2 then [ev] else ev :: rest) (stepEv s ev).1)
    (hP : ∀ s evs r, P s → R s evs r → P r.1)
    (hseq : ∀ s a b r1 r2, R s a r1 → R r1.1 b r2 → R s (a ++ b) (r1.seq r2))
    (evs : List WsEv) : ∀ s, P s → R s evs (handleEvents s evs) := by
  intro s hs
  rw [handleEvents_eq_runEvs]
  induction evs generalizing s with
  | nil => exact hnil s hs
  | cons ev rest ih =>
    have h1 := hstep s ev rest hs
    simp only [runEvs]
    split
    · rename_i hgo
      rw [if_pos hgo] at h1
      exact hseq s [ev] rest _ _ h1 (ih _ (hP _ _ _ hs h1))
    · rename_i hgo
      rw [if_neg hgo] at h1
      exact h1

end HC.Stream.Ws
