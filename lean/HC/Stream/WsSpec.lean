import HC.Stream.Ws
/-!
# Specification vocabulary for the WebSocket properties (C10, C11)

Nothing here changes `HC/Stream/Ws.lean`; these are the *declarative* objects the theorems compare the model with:
client sessions as lists of messages given by arbitrary fragmentations with control frames interleaved (`CMsg`,
`sessionEvs`), the one-event view of `_handle_events` (`stepEv` / `runEvs`, proved equal to `handleEvents` in
`HC/Stream/WsLemmas.lean`), application message feeds, and the header-list reading of a handshake (`lastHeader`,
`validSpec`).
-/
namespace HC.Stream.Ws
open HC HC.Stream HC.Extracted

/-! ## client sessions -/

/-- control frames a client may interleave anywhere -/
inductive Ctl where
  | ping (payload : Bytes)
  | pong (payload : Bytes)
deriving Repr, DecidableEq

def Ctl.ev : Ctl → WsEv
  | .ping p => .ping p
  | .pong p => .pong p

def ctlEvs (cs : List Ctl) : List WsEv := cs.map Ctl.ev

/-- what the server must answer to a run of control frames: one pong per ping, same payload, same order -/
def pongsFor : List Ctl → List Ev
  | [] => []
  | .ping p :: r => .data (.pong p) :: pongsFor r
  | .pong _ :: r => pongsFor r

/-- non-final fragments, each preceded by the control frames the client put before it -/
def partEvs {β : Type} (mk : List β → Payload) : List (List Ctl × List β) → List WsEv
  | [] => []
  | (cs, d) :: r => ctlEvs cs ++ [.message (mk d) false] ++ partEvs mk r

def partData {β : Type} (fs : List (List Ctl × List β)) : List β := (fs.map (·.2)).flatten

def partCtl {β : Type} (fs : List (List Ctl × List β)) : List Ctl := (fs.map (·.1)).flatten

/-- one complete message as the client sent it: any number of non-final fragments, then the final one; every
    fragment may be preceded by control frames.  Every value of this type is a well-formed fragmentation
    (non-empty, one kind), so theorems quantify over *all* fragmentations without side conditions. -/
inductive CMsg where
  | text (init : List (List Ctl × List Char)) (lastCtl : List Ctl) (last : List Char)
  | bytes (init : List (List Ctl × Bytes)) (lastCtl : List Ctl) (last : Bytes)
deriving Repr, DecidableEq

def CMsg.evs : CMsg → List WsEv
  | .text init lc l => partEvs Payload.text init ++ ctlEvs lc ++ [.message (.text l) true]
  | .bytes init lc l => partEvs Payload.bytes init ++ ctlEvs lc ++ [.message (.bytes l) true]

/-- the message the application must receive: the concatenation of the fragments, same kind -/
def CMsg.payload : CMsg → Payload
  | .text init _ l => .text (partData init ++ l)
  | .bytes init _ l => .bytes (partData init ++ l)

/-- accumulated size: characters for text, bytes for binary -/
def CMsg.size (m : CMsg) : Nat := m.payload.size

def CMsg.ctl : CMsg → List Ctl
  | .text init lc _ => partCtl init ++ lc
  | .bytes init lc _ => partCtl init ++ lc

def msgsEvs (ms : List CMsg) : List WsEv := (ms.map CMsg.evs).flatten
def msgsCtl (ms : List CMsg) : List Ctl := (ms.map CMsg.ctl).flatten

/-- a whole client session: complete messages, then trailing control frames -/
def sessionEvs (ms : List CMsg) (trail : List Ctl) : List WsEv := msgsEvs ms ++ ctlEvs trail

/-! ## `_handle_events`, one event at a time -/

abbrev HOut := S × List AppMsg × List Ev × Option PyErr

/-- the body of the `for event in self.connection.events()` loop; the `Bool` is "the loop goes on to the next
    event" (`false` after `break` and after a raise) -/
def stepEv (s : S) : WsEv → HOut × Bool
  | .message p fin =>
    match s.buffer.extend p with
    | (b, some .tooLarge) =>
      let (s1, e, err) := sendWs { s with buffer := b } (.close 1009)
      ((s1, [], e, err), false)
    | (b, some .typeError) => (({ s with buffer := b }, [], [], some .typeError), false)
    | (b, none) =>
      if fin then
        (({ s with buffer := b.clear }, (match b.value with | some v => [AppMsg.receive v] | none => []), [], none), true)
      else (({ s with buffer := b }, [], [], none), true)
  | .ping payload =>
    let (s1, e, err) := sendWs s (.pong payload)
    ((s1, [], e, err), err.isNone)
  | .pong _ => ((s, [], [], none), true)
  | .close code =>
    let c' := s.conn.map connRecvClose
    let s0 := { s with conn := c', clientCloseCode := if c' = some .remoteClosing then some code else s.clientCloseCode }
    let (s1, e, err) := if c' = some .remoteClosing then sendWs s0 (.close code) else (s0, [], none)
    match err with
    | some x => ((s1, [], e, some x), false)
    | none => ((s1, [], e ++ [Ev.streamClosed], none), true)
  | .failed code =>
    let (s1, e, err) := if s.conn = some .remoteClosing then sendWs { s with clientCloseCode := some code } (.close code)
                        else (s, [], none)
    match err with
    | some x => ((s1, [], e, some x), false)
    | none => ((s1, [], e ++ [Ev.streamClosed], none), true)

/-- sequential composition of two batches -/
def HOut.seq (r1 : HOut) (r2 : HOut) : HOut := (r2.1, r1.2.1 ++ r2.2.1, r1.2.2.1 ++ r2.2.2.1, r2.2.2.2)

def runEvs (s : S) : List WsEv → HOut × Bool
  | [] => ((s, [], [], none), true)
  | ev :: rest =>
    if (stepEv s ev).2 then
      (HOut.seq (stepEv s ev).1 (runEvs (stepEv s ev).1.1 rest).1, (runEvs (stepEv s ev).1.1 rest).2)
    else stepEv s ev

/-! ## feeds -/

/-- protocol-side inputs one after the other; an exception propagates to the protocol, the stream object lives on -/
def feedIn : S → List In → S × List AppMsg × List Ev
  | s, [] => (s, [], [])
  | s, i :: is =>
    let r := handle s i
    let r2 := feedIn r.1 is
    (r2.1, r.2.1 ++ r2.2.1, r.2.2.1 ++ r2.2.2)

/-- application-side messages one after the other (an exception is raised into the application, which may go on) -/
def feed (token : Bytes → Bytes) (ext : Option Bytes) : S → List (Option Msg) → S × List Ev
  | s, [] => (s, [])
  | s, m :: ms =>
    ((feed token ext (appSend token ext s m).1 ms).1, (appSend token ext s m).2.1 ++ (feed token ext (appSend token ext s m).1 ms).2)

def isReceive : AppMsg → Bool
  | .receive _ => true
  | _ => false

/-- what an application sends: `{"type": "websocket.send", "bytes": b}` or `{…, "text": t}` -/
inductive AppOut where
  | bytes (b : Bytes)
  | text (t : String)
deriving Repr, DecidableEq

def AppOut.msg : AppOut → Msg
  | .bytes b => .send (some (.bytes b)) none
  | .text t => .send none (some (.str t))

/-- the wsproto message the client must get for it: same kind, same payload -/
def AppOut.frame : AppOut → WsOut
  | .bytes b => .message (.bytes b)
  | .text t => .message (.text t.toList)

/-! ## the handshake as the client's header list -/

/-- the value of the **last** header called `name` (names compared case-insensitively, `name` given in lower case) -/
def lastHeader (name : Bytes) : Headers → Option Bytes
  | [] => none
  | (n, v) :: rest =>
    match lastHeader name rest with
    | some x => some x
    | none => if Bytes.lower n == name then some v else none

/-- the comma-separated tokens of a header value, surrounding white space removed -/
def tokens (v : Bytes) : List Bytes := (Bytes.splitOnB 44 v).map Bytes.stripL1

def isCommaHeader (n : Bytes) : Bool :=
  Bytes.lower n == "connection".b || Bytes.lower n == "sec-websocket-extensions".b || Bytes.lower n == "sec-websocket-protocol".b

/-- every occurrence of a comma-list handshake header is ASCII (otherwise `split_comma_header` raises) -/
def commaHeadersAscii (hs : Headers) : Prop := ∀ h ∈ hs, isCommaHeader h.1 = true → isAscii h.2 = true

/-- the version an HTTP/2 / HTTP/3 carrier states (`H2Protocol` passes `"2"`, `H3Protocol` `"3"`); every other string comes from
    the request line of an HTTP/1 connection (h11 hands over the two digits around the dot, see `H11Version`) -/
def multiplexedVersion (version : String) : Prop := version = "2" ∨ version = "3"

instance (version : String) : Decidable (multiplexedVersion version) := by unfold multiplexedVersion; exact inferInstance

/-- what `h11` hands over as `request.http_version` (its request-line pattern is `HTTP/[0-9]\.[0-9]`): one digit, a dot, one digit
    — `1.1`, but also `1.2`, `2.0`, `9.9`, `0.9` -/
def H11Version (version : String) : Prop :=
  ∃ a b : Char, a.isDigit = true ∧ b.isDigit = true ∧ version = String.ofList [a, '.', b]

/-- **the property's notion of a valid handshake**, read off the header list:
    never below 1.1; version exactly `13`; and — on every carrier that is not a multiplexed one, i.e. for *every* version string an
    HTTP/1 connection can state, not only `1.1` — a key, a `Connection` list with an `upgrade` token (any case) and
    `Upgrade: websocket` (any case).  On HTTP/2 / HTTP/3 (extended CONNECT) only the version header counts. -/
def validSpec (version : String) (hs : Headers) : Prop :=
  ¬ version < "1.1" ∧
  lastHeader "sec-websocket-version".b hs = some "13".b ∧
  (¬ multiplexedVersion version →
    (lastHeader "sec-websocket-key".b hs).isSome = true ∧
    (∃ v, lastHeader "connection".b hs = some v ∧ ∃ t ∈ tokens v, Bytes.lower t = "upgrade".b) ∧
    (∃ u, lastHeader "upgrade".b hs = some u ∧ Bytes.lower u = "websocket".b))

/-- the handshake object the header list denotes -/
def handshakeOf (version : String) (hs : Headers) : Handshake :=
  { version := version,
    connectionTokens := (lastHeader "connection".b hs).map tokens,
    extensions := (lastHeader "sec-websocket-extensions".b hs).map tokens,
    key := lastHeader "sec-websocket-key".b hs,
    subprotocols := (lastHeader "sec-websocket-protocol".b hs).map tokens,
    upgrade := lastHeader "upgrade".b hs,
    wsVersion := lastHeader "sec-websocket-version".b hs }

end HC.Stream.Ws
