import HC.Stream.WsLemmas
/-!
# WsTotal — `WSStream.handle` never raises (lemmas for C04 `total_ws` / `total_h1`)

wsproto is an oracle: the events `Connection.events()` yields are inputs of the model.  What the library can yield is
restricted by its message-reassembly state `Frag` (the kind of the data message whose fragments are being delivered:
wsproto turns CONTINUATION frames into `TextMessage` / `BytesMessage` of the kind of the first frame).  Under that
restriction `WebsocketBuffer.extend` never writes `str` into a `BytesIO` or `bytes` into a `StringIO` (TypeError), and
`_send_wsproto_event` never runs without a connection object (AttributeError), whatever the application does.
-/
namespace HC.Stream.Ws
open HC HC.Stream HC.Extracted

inductive Kind where | text | bytes
deriving Repr, DecidableEq

def Payload.kind : Payload → Kind
  | .text _ => .text
  | .bytes _ => .bytes

/-- wsproto's reassembly state: `none` between messages, `some k` inside a fragmented message of kind `k` -/
abbrev Frag := Option Kind

/-- the event is one the library can yield in reassembly state `g` -/
def evOk (g : Frag) : WsEv → Bool
  | .message p _ => g == none || g == some p.kind
  | _ => true

def evNext (g : Frag) : WsEv → Frag
  | .message p fin => if fin then none else some p.kind
  | _ => g

def evsOk : Frag → List WsEv → Bool
  | _, [] => true
  | g, e :: es => evOk g e && evsOk (evNext g e) es

def evsNext : Frag → List WsEv → Frag
  | g, [] => g
  | g, e :: es => evsNext (evNext g e) es

def Buffer.over (b : Buffer) : Bool := Guards.wsBufferCmp.eval b.length b.maxLength

/-- the buffer agrees with the library's reassembly state, or it is over the limit (then nothing is written any more) -/
def BufRel (g : Frag) (b : Buffer) : Prop :=
  b.over = true ∨ (match g with | none => b.value = none | some k => ∃ v, b.value = some v ∧ v.kind = k)

/-- an accepted handshake has a connection object (`_accept` assigns both) -/
def Ok (s : S) : Prop := s.hs.accepted = true → s.conn.isSome = true

theorem bufRel_fresh (n : Nat) : BufRel none { maxLength := n } := Or.inr rfl

/-- `extend` under the library restriction: never TypeError; afterwards the buffer is over the limit (FrameTooLargeError)
    or holds data of the event's kind -/
theorem extend_cases (g : Frag) (b : Buffer) (p : Payload) (hrel : BufRel g b) (hok : g = none ∨ g = some p.kind) :
    ((b.extend p).2 = some .tooLarge ∧ (b.extend p).1.over = true) ∨
    ((b.extend p).2 = none ∧ ∃ v, (b.extend p).1.value = some v ∧ v.kind = p.kind) := by
  by_cases hov : Guards.wsBufferCmp.eval b.length b.maxLength = true
  · left; rw [b.extend_over_limit p hov]; exact ⟨rfl, hov⟩
  · unfold Buffer.extend
    simp only [hov, Bool.false_eq_true, if_false]
    have hval : b.value = none ∨ ∃ v, b.value = some v ∧ v.kind = p.kind := by
      rcases hrel with h | h
      · exact absurd h hov
      · rcases hok with rfl | rfl
        · exact Or.inl h
        · exact Or.inr h
    -- the write goes through (and may take the buffer over the limit): by the kind of the event and of what is buffered
    rcases hval with hv | ⟨v, hv, hk⟩ <;> rw [hv]
    · cases p <;> simp only [] <;> split <;> simp_all [Buffer.over, Payload.kind]
    · cases p <;> cases v <;> simp only [Payload.kind, reduceCtorEq] at hk <;> simp only [] <;> split <;>
        simp_all [Buffer.over, Payload.kind]

/-- what `_handle_events` leaves alone, and that it never raises -/
structure HandleEventsPost (g : Frag) (evs : List WsEv) (s : S) (r : S × List AppMsg × List Ev × Option PyErr) : Prop where
  noErr : r.2.2.2 = none
  conn : r.1.conn.isSome = true
  buf : BufRel (evsNext g evs) r.1.buffer
  hs : r.1.hs = s.hs
  closed : r.1.closed = s.closed
  st : r.1.st = s.st

theorem evsOk_append (g : Frag) (a b : List WsEv) : evsOk g (a ++ b) = (evsOk g a && evsOk (evsNext g a) b) := by
  induction a generalizing g with
  | nil => rfl
  | cons e r ih => simp [evsOk, evsNext, ih, Bool.and_assoc]

theorem evsNext_append (g : Frag) (a b : List WsEv) : evsNext g (a ++ b) = evsNext (evsNext g a) b := by
  induction a generalizing g with
  | nil => rfl
  | cons e r ih => simp [evsNext, ih]

/-- the loop body with a connection object: the connection object stays, and on an event the library can yield nothing raises -/
theorem stepEv_total (s : S) (ev : WsEv) (rest : List WsEv) (hc : s.conn.isSome = true) :
    (stepEv s ev).1.1.conn.isSome = true ∧ ∀ g, BufRel g s.buffer →
      evsOk g (if (stepEv s ev).2 then [ev] else ev :: rest) = true →
      HandleEventsPost g (if (stepEv s ev).2 then [ev] else ev :: rest) s (stepEv s ev).1 := by
  have h := stepped_stepEv s ev
  generalize (stepEv s ev).1 = r, (stepEv s ev).2 = go at h ⊢
  -- a data frame the library can yield continues the buffered message or starts one: `extend_cases` applies
  have hkind : ∀ {g p fin l}, evsOk g (.message p fin :: l) = true → g = none ∨ g = some p.kind := by
    intro g p fin l h
    simp only [evsOk, evOk, Bool.and_eq_true, Bool.or_eq_true, beq_iff_eq] at h
    exact h.1
  cases h
  case tooLarge p fin b s1 e err hx hw =>
    obtain ⟨k1, k2, k3, k4, k5⟩ := hw.keeps
    obtain ⟨k6, rfl⟩ := k5 hc
    simp only [Bool.false_eq_true, if_false]
    refine ⟨k6, fun g hrel hok => ⟨rfl, k6, ?_, k2, k3, k4⟩⟩
    rcases extend_cases g s.buffer _ hrel (hkind hok) with ⟨_, hov⟩ | ⟨he, _⟩
    · rw [hx] at hov; exact k1 ▸ Or.inl hov
    · rw [hx] at he; cases he
  case typeError p fin b hx =>
    simp only [Bool.false_eq_true, if_false]
    refine ⟨hc, fun g hrel hok => ?_⟩
    rcases extend_cases g s.buffer _ hrel (hkind hok) with ⟨he, _⟩ | ⟨he, _⟩ <;> rw [hx] at he <;> cases he
  case final => exact ⟨hc, fun g hrel hok => ⟨rfl, hc, Or.inr rfl, rfl, rfl, rfl⟩⟩
  case fragment p b hx =>
    simp only [if_true]
    refine ⟨hc, fun g hrel hok => ⟨rfl, hc, ?_, rfl, rfl, rfl⟩⟩
    rcases extend_cases g s.buffer _ hrel (hkind hok) with ⟨he, _⟩ | ⟨_, v, hv, hk⟩
    · rw [hx] at he; cases he
    · rw [hx] at hv; exact Or.inr ⟨v, hv, hk⟩
  case ping payload s1 e err hw =>
    obtain ⟨k1, k2, k3, k4, k5⟩ := hw.keeps
    obtain ⟨k6, rfl⟩ := k5 hc
    exact ⟨k6, fun g hrel hok => ⟨rfl, k6, k1 ▸ hrel, k2, k3, k4⟩⟩
  case pong | failed => exact ⟨hc, fun g hrel hok => ⟨rfl, hc, hrel, rfl, rfl, rfl⟩⟩
  case closeEchoed | failedEchoed => exact ⟨rfl, fun g hrel hok => ⟨rfl, rfl, hrel, rfl, rfl, rfl⟩⟩
  case closeQuiet =>
    have hc0 : (s.conn.map connRecvClose).isSome = true := by simpa using hc
    exact ⟨hc0, fun g hrel hok => ⟨rfl, hc0, hrel, rfl, rfl, rfl⟩⟩

theorem handleEvents_total : ∀ (evs : List WsEv) (s : S) (g : Frag), s.conn.isSome = true → BufRel g s.buffer → evsOk g evs = true →
    HandleEventsPost g evs s (handleEvents s evs) := fun evs s g hc hrel hok =>
  (handleEvents_induct (P := fun s => s.conn.isSome = true)
    (R := fun s evs r => r.1.conn.isSome = true ∧ ∀ g, BufRel g s.buffer → evsOk g evs = true → HandleEventsPost g evs s r)
    (fun s hc => ⟨hc, fun g hrel _ => ⟨rfl, hc, hrel, rfl, rfl, rfl⟩⟩)
    (fun s ev rest hc => stepEv_total s ev rest hc)
    (fun _ _ _ _ h => h.1)
    (fun s a b r1 r2 h1 h2 => ⟨h2.1, fun g hrel hok => by
      rw [evsOk_append, Bool.and_eq_true] at hok
      have p1 := h1.2 g hrel hok.1
      have p2 := h2.2 _ p1.buf hok.2
      exact ⟨p2.noErr, p2.conn, by rw [evsNext_append]; exact p2.buf, p2.hs.trans p1.hs, p2.closed.trans p1.closed, p2.st.trans p1.st⟩⟩)
    evs s hc).2 g hrel hok

/-- `_handle_events` never touches `closed`, whatever the events and the state of the connection -/
theorem handleEvents_closed (evs : List WsEv) (s : S) : (handleEvents s evs).1.closed = s.closed := by
  refine handleEvents_induct (P := fun _ => True) (R := fun s _ r => r.1.closed = s.closed)
    (fun _ _ => rfl) ?_ (fun _ _ _ _ _ => trivial) (fun _ _ _ _ _ h1 h2 => h2.trans h1) evs s trivial
  intro s ev _ _
  have h := stepped_stepEv s ev
  generalize (stepEv s ev).1 = r, (stepEv s ev).2 = go at h ⊢
  cases h with
  | tooLarge _ hw | ping hw => exact hw.keeps.2.2.1
  | _ => rfl

/-- `_handle_events` hands the protocol only frames to write and `StreamClosed` -/
def QuietEv : Ev → Prop
  | .data _ => True
  | .streamClosed => True
  | _ => False

theorem WsSent.quiet {s : S} {o : WsOut} {r : Out} (h : WsSent s o r) : ∀ e ∈ r.2.1, QuietEv e := by
  cases h <;> simp [QuietEv]

theorem stepEv_quiet (s : S) (ev : WsEv) : ∀ e ∈ (stepEv s ev).1.2.2.1, QuietEv e := by
  have h := stepped_stepEv s ev
  generalize (stepEv s ev).1 = r, (stepEv s ev).2 = go at h ⊢
  cases h with
  | tooLarge _ hw | ping hw => exact hw.quiet
  | _ => simp [QuietEv]

theorem handleEvents_quiet : ∀ (evs : List WsEv) (s : S), ∀ e ∈ (handleEvents s evs).2.2.1, QuietEv e := fun evs s =>
  handleEvents_induct (P := fun _ => True) (R := fun _ _ r => ∀ e ∈ r.2.2.1, QuietEv e)
    (fun _ _ => by simp) (fun s ev _ _ => stepEv_quiet s ev) (fun _ _ _ _ _ => trivial)
    (fun _ _ _ _ _ h1 h2 e he => (List.mem_append.mp he).elim (h1 e) (h2 e)) evs s trivial

/-- what the library can have yielded for the bytes handed to `handle(Data)`: nothing unless the stream consults its
    wsproto connection (open stream, accepted handshake), else a sequence allowed by the reassembly state -/
def dataOk (g : Frag) (s : S) (evs : List WsEv) : Bool :=
  if s.closed || !s.hs.accepted then evs.isEmpty else evsOk g evs

/-- **`handle(Data | Body)` never raises**, keeps `Ok` and the buffer relation -/
theorem handle_data_total (s : S) (g : Frag) (evs : List WsEv) (hok : Ok s) (hrel : BufRel g s.buffer) (hwf : dataOk g s evs = true) :
    (handle s (.data evs)).2.2.2 = none ∧ Ok (handle s (.data evs)).1 ∧ BufRel (evsNext g evs) (handle s (.data evs)).1.buffer ∧
    (handle s (.data evs)).1.hs = s.hs ∧ (handle s (.data evs)).1.st = s.st := by
  have hh := handled_handle s (.data evs)
  generalize handle s (.data evs) = o at hh ⊢
  -- unless the stream consults wsproto (the row `events`) the library has yielded nothing
  cases hh with
  | events hcl hacc =>
    have h := handleEvents_total evs s g (hok hacc) hrel (by simpa [dataOk, hcl, hacc] using hwf)
    exact ⟨h.noErr, fun _ => h.conn, h.buf, h.hs, h.st⟩
  | closed _ hcl =>
    obtain rfl : evs = [] := by simpa [dataOk, hcl] using hwf
    exact ⟨rfl, hok, hrel, rfl, rfl⟩
  | early hcl hacc =>
    obtain rfl : evs = [] := by simpa [dataOk, hcl, hacc] using hwf
    exact ⟨rfl, fun h => by simp [hacc] at h, hrel, rfl, rfl⟩
  | ignored hcl hacc =>
    obtain rfl : evs = [] := by simpa [dataOk, hcl, hacc] using hwf
    exact ⟨rfl, hok, hrel, rfl, rfl⟩

theorem handle_closed_total (s : S) :
    (handle s .streamClosed).2.2.2 = none ∧ (handle s .streamClosed).2.2.1 = [] ∧ (handle s .streamClosed).1.hs = s.hs ∧
    (handle s .streamClosed).1.conn = s.conn ∧ (handle s .streamClosed).1.buffer = s.buffer ∧ (handle s .streamClosed).1.st = s.st ∧
    (handle s .streamClosed).1.closed = true := by
  have hh := handled_handle s .streamClosed
  generalize handle s .streamClosed = o at hh ⊢
  cases hh with
  | closed _ hcl => exact ⟨rfl, rfl, rfl, rfl, rfl, rfl, hcl⟩
  | lost => exact ⟨rfl, rfl, rfl, rfl, rfl, rfl, rfl⟩

/-! ### the application side keeps `Ok` and never touches the receive buffer -/

theorem sendWs_keeps (s : S) (o : WsOut) :
    (sendWs s o).1.buffer = s.buffer ∧ (sendWs s o).1.hs = s.hs ∧ (sendWs s o).1.closed = s.closed ∧ (sendWs s o).1.st = s.st ∧
    (s.conn.isSome = true → (sendWs s o).1.conn.isSome = true) := by
  have h := (wsSent_sendWs s o).keeps (s1 := (sendWs s o).1) (e := (sendWs s o).2.1) (err := (sendWs s o).2.2)
  exact ⟨h.1, h.2.1, h.2.2.1, h.2.2.2.1, fun hc => (h.2.2.2.2 hc).1⟩

/-- `app_send` keeps the buffer, keeps `Ok`, never reopens a closed stream and never returns to HANDSHAKE -/
theorem appSend_keeps (token : Bytes → Bytes) (ext : Option Bytes) (s : S) (m : Option Msg) (hok : Ok s) :
    (appSend token ext s m).1.buffer = s.buffer ∧ Ok (appSend token ext s m).1 ∧ (appSend token ext s m).1.closed = s.closed ∧
    ((appSend token ext s m).1.st = .handshake → s.st = .handshake) := by
  have h := sent_appSend token ext s m
  generalize appSend token ext s m = o at h ⊢
  obtain ⟨s', evs, err⟩ := o
  obtain ⟨hc, hb, ⟨_, h2, h3, h4⟩ | ⟨hh, hconn, hst, _⟩⟩ := h.moves
  · exact ⟨hb, fun _ => by simp [h4], hc, fun h => by simp [h2] at h⟩
  · exact ⟨hb, fun ha => hconn (hok (hh ▸ ha)), hc, hst⟩

/-- the stream as it stands when a protocol-level send raised has the same properties -/
theorem stateAtRaise_keeps (token : Bytes → Bytes) (ext : Option Bytes) (s : S) (m : Option Msg) (at' : Option Ev) (hok : Ok s) :
    (stateAtRaise m s (appSend token ext s m).1 at').buffer = s.buffer ∧ Ok (stateAtRaise m s (appSend token ext s m).1 at') ∧
    (stateAtRaise m s (appSend token ext s m).1 at').closed = s.closed ∧
    ((stateAtRaise m s (appSend token ext s m).1 at').st = .handshake → s.st = .handshake) := by
  have hk := appSend_keeps token ext s m hok
  unfold stateAtRaise
  split
  · exact ⟨rfl, hok, rfl, fun h => by simp at h⟩
  · exact ⟨rfl, hok, rfl, fun h => by simp at h⟩
  · exact hk

end HC.Stream.Ws
