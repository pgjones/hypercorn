import HC.Prelude
/-!
# WsWire — several writer tasks, one ordered byte stream (the send side of a WebSocket stream)

A WebSocket stream is written to by several tasks of the server: the application's task (`websocket.send`), the reader
task (the pong for a ping, the close reply, the 1009 close) and the ping task (`websocket_ping_interval`).  Each of them
goes through

```
WSStream._send_wsproto_event:   data = self.connection.send(event)            # one whole serialised frame
                                await self.send(Data(stream_id=…, data=data))
HTTP/2   H2Protocol.stream_send (Body, Data):   … await self.stream_buffers[id].push(event.data)
         StreamBuffer.push:                     self.buffer.extend(data)       # before the first suspension point
         send task:                             pop(n) -> DATA frames, in buffer order
HTTP/1.1 H11Protocol.stream_send Data:          await self.send(RawData(data=event.data))
         TCPServer.protocol_send RawData:       async with self.send_lock: write(event.data)
```
so the hand-over of one frame is ONE append of the whole frame to the ordered byte stream of the connection (a single
Python statement; the tasks are cooperative).  The writers suspend before and after that append (`push` waits at the high
water mark, the lock, the transport), never inside it.  That granularity is what `HC.Props.C10.frame_hand_over_assumed`
reads off the current source (`HC/Extracted/WsSend.lean`, tools/extract_wssend.py).

Model: `handOver w` = writer `w` appends its next frame, `take n` = the send task / transport takes the next `n` symbols
for the client.  Theorems: under EVERY schedule the stream is the concatenation of whole frames in hand-over order and
every writer's frames appear in its own order (`inv_run`); hence a client that parses a self-delimiting framing sees, for
every class of frame (messages, pongs, pings), exactly what the task of that class sent, in order
(`client_sees_each_writer_in_order`).  `Sliced` is the same system with a frame handed over in pieces: the statement is
false there (a schedule puts another writer's frame inside the first one).
-/
namespace HC.Stream.WsWire

/-- a self-delimiting framing of `φ` over the symbols `σ` (wsproto's frame serialiser and parser between server and client) -/
structure Framing (σ φ : Type) where
  enc : φ → List σ
  dec : List σ → Option (φ × List σ)
  dec_enc : ∀ f rest, dec (enc f ++ rest) = some (f, rest)
  dec_nil : dec [] = none

variable {σ φ : Type}

/-- the client parses the stream `b` into exactly the frames `fs` (nothing left over) -/
inductive Decodes (F : Framing σ φ) : List σ → List φ → Prop
  | done : Decodes F [] []
  | frame {b : List σ} {f : φ} {rest : List σ} {fs : List φ} : F.dec b = some (f, rest) → Decodes F rest fs → Decodes F b (f :: fs)

/-- the serialised stream of a list of frames -/
def wireOf (F : Framing σ φ) (fs : List φ) : List σ := (fs.map F.enc).flatten

theorem wireOf_cons (F : Framing σ φ) (f : φ) (fs : List φ) : wireOf F (f :: fs) = F.enc f ++ wireOf F fs := by
  simp [wireOf]

theorem wireOf_append (F : Framing σ φ) (a b : List φ) : wireOf F (a ++ b) = wireOf F a ++ wireOf F b := by
  simp [wireOf]

/-- whole frames one after the other parse back to themselves -/
theorem decodes_wireOf (F : Framing σ φ) (fs : List φ) : Decodes F (wireOf F fs) fs := by
  induction fs with
  | nil => exact .done
  | cons f r ih => rw [wireOf_cons]; exact .frame (F.dec_enc f _) ih

/-- … and to nothing else -/
theorem decodes_unique (F : Framing σ φ) {b : List σ} {fs gs : List φ} (h1 : Decodes F b fs) (h2 : Decodes F b gs) : fs = gs := by
  induction h1 generalizing gs with
  | done =>
    cases h2 with
    | done => rfl
    | frame hd _ => rw [F.dec_nil] at hd; cases hd
  | frame hd _ ih =>
    cases h2 with
    | done => rw [F.dec_nil] at hd; cases hd
    | frame hd' ht' =>
      rw [hd] at hd'
      cases hd'
      rw [ih ht']

/-! ### the system -/

structure St (σ φ : Type) where
  todo : Nat → List φ          -- per writer task: the frames it still has to send, in its order
  buf : List σ                 -- StreamBuffer.buffer (HTTP/2) / what the transport has accepted and not yet sent
  wire : List σ                -- what has left for the client, in order
  log : List (Nat × φ)         -- ghost: the hand-overs so far (writer, frame)

inductive Op where
  | handOver (w : Nat)         -- writer `w` passes its next Data event on: ONE append of the whole frame
  | take (n : Nat)             -- the send task pops up to `n` symbols (window, frame size) and writes them
deriving Repr, DecidableEq

def start (init : Nat → List φ) : St σ φ := { todo := init, buf := [], wire := [], log := [] }

def step (F : Framing σ φ) (s : St σ φ) : Op → St σ φ
  | .handOver w =>
    match s.todo w with
    | [] => s
    | f :: rest => { s with todo := fun v => if v = w then rest else s.todo v, buf := s.buf ++ F.enc f, log := s.log ++ [(w, f)] }
  | .take n => { s with wire := s.wire ++ s.buf.take n, buf := s.buf.drop n }

def run (F : Framing σ φ) (s : St σ φ) (ops : List Op) : St σ φ := ops.foldl (step F) s

/-- the frames writer `w` has handed over, in order -/
def sentBy (w : Nat) (log : List (Nat × φ)) : List φ := (log.filter (fun p => p.1 == w)).map (·.2)

theorem sentBy_append (w : Nat) (a b : List (Nat × φ)) : sentBy w (a ++ b) = sentBy w a ++ sentBy w b := by
  simp [sentBy]

structure Inv (F : Framing σ φ) (init : Nat → List φ) (s : St σ φ) : Prop where
  /-- the stream (sent and buffered) is the concatenation of whole frames, in hand-over order -/
  stream : s.wire ++ s.buf = wireOf F (s.log.map (·.2))
  /-- every writer's frames are handed over in its own order, none lost, none twice -/
  order : ∀ w, sentBy w s.log ++ s.todo w = init w

theorem inv_start (F : Framing σ φ) (init : Nat → List φ) : Inv F init (start init) :=
  ⟨by simp [start, wireOf], by intro w; simp [start, sentBy]⟩

theorem inv_step (F : Framing σ φ) (init : Nat → List φ) (s : St σ φ) (o : Op) (h : Inv F init s) : Inv F init (step F s o) := by
  cases o with
  | take n =>
    refine ⟨?_, h.order⟩
    have := h.stream
    simp only [step, List.append_assoc, List.take_append_drop]
    exact this
  | handOver w =>
    simp only [step]
    cases hw : s.todo w with
    | nil => exact h
    | cons f rest =>
      refine ⟨?_, ?_⟩
      · have := h.stream
        simp only [List.map_append, List.map_cons, List.map_nil, wireOf_append, ← List.append_assoc, this]
        simp [wireOf]
      · intro v
        have hv := h.order v
        by_cases hvw : v = w
        · subst hvw
          rw [hw] at hv
          simp [sentBy, ← hv]
        · have : ((w == v) = false) := by simp; exact fun e => hvw e.symm
          simp [sentBy, hvw, this, ← hv]

/-- **under every schedule** of hand-overs and takes the stream consists of whole frames, each writer's in its own order -/
theorem inv_run (F : Framing σ φ) (init : Nat → List φ) (ops : List Op) : Inv F init (run F (start init) ops) := by
  suffices h : ∀ s, Inv F init s → Inv F init (run F s ops) from h _ (inv_start F init)
  induction ops with
  | nil => intro s h; exact h
  | cons o r ih => intro s h; exact ih _ (inv_step F init s o h)

/-- every logged hand-over is a frame of the writer it is logged for -/
theorem log_mem (F : Framing σ φ) (init : Nat → List φ) (s : St σ φ) (h : Inv F init s) (w : Nat) (f : φ) (hm : (w, f) ∈ s.log) :
    f ∈ init w := by
  rw [← h.order w]
  apply List.mem_append_left
  simp only [sentBy, List.mem_map, List.mem_filter]
  exact ⟨(w, f), ⟨hm, by simp⟩, rfl⟩

/-- when the writers only send frames of their own class (`cls`: messages / replies / pings - the opcode), the frames of
    class `w` in the log are what writer `w` handed over -/
theorem filter_cls_log (cls : φ → Nat) (w : Nat) (log : List (Nat × φ)) (hcls : ∀ p ∈ log, cls p.2 = p.1) :
    (log.map (·.2)).filter (fun f => cls f == w) = sentBy w log := by
  rw [sentBy, List.filter_map]
  congr 1
  exact List.filter_congr fun p hp => by simp [hcls p hp]

/-- a drained stream parses (the client is never left with a damaged frame) -/
theorem client_can_parse (F : Framing σ φ) (init : Nat → List φ) (ops : List Op) (hdrained : (run F (start init) ops).buf = []) :
    Decodes F (run F (start init) ops).wire ((run F (start init) ops).log.map (·.2)) := by
  have hs := (inv_run F init ops).stream
  rw [hdrained, List.append_nil] at hs
  rw [hs]
  exact decodes_wireOf F _

/-- **what the client sees, for every schedule**: once everything has been handed over and has left, whatever the client
    parses out of the stream contains, for every class of frame, exactly the frames the writer of that class sent, in its
    order (the application's messages with identical kind and payload, in order; one pong per ping reply, in order) -/
theorem client_sees_each_writer_in_order (F : Framing σ φ) (cls : φ → Nat) (init : Nat → List φ) (ops : List Op)
    (hcls : ∀ w, ∀ f ∈ init w, cls f = w)
    (hall : ∀ w, (run F (start init) ops).todo w = []) (hdrained : (run F (start init) ops).buf = [])
    (got : List φ) (hgot : Decodes F (run F (start init) ops).wire got) :
    ∀ w, got.filter (fun f => cls f == w) = init w := by
  intro w
  have h := inv_run F init ops
  have hg := decodes_unique F hgot (client_can_parse F init ops hdrained)
  have ho := h.order w
  rw [hall w, List.append_nil] at ho
  rw [hg, filter_cls_log cls w _ (fun p hp => hcls p.1 p.2 (log_mem F init _ h p.1 p.2 hp)), ho]

/-! ### the same system with a frame handed over in pieces (what the granularity above excludes) -/

namespace Sliced

structure St (σ φ : Type) where
  todo : Nat → List φ
  part : Nat → List σ          -- per writer: the rest of the frame it is in the middle of handing over
  buf : List σ
  wire : List σ

inductive Op where
  | handOverPiece (w k : Nat)  -- writer `w` appends the next `k` symbols of its current frame (suspension points in between)
  | take (n : Nat)
deriving Repr, DecidableEq

def step (F : Framing σ φ) (s : St σ φ) : Op → St σ φ
  | .handOverPiece w k =>
    match s.part w, s.todo w with
    | [], [] => s
    | [], f :: rest =>
      { s with todo := fun v => if v = w then rest else s.todo v, part := fun v => if v = w then (F.enc f).drop k else s.part v,
               buf := s.buf ++ (F.enc f).take k }
    | p, _ => { s with part := fun v => if v = w then p.drop k else s.part v, buf := s.buf ++ p.take k }
  | .take n => { s with wire := s.wire ++ s.buf.take n, buf := s.buf.drop n }

def run (F : Framing σ φ) (s : St σ φ) (ops : List Op) : St σ φ := ops.foldl (step F) s

end Sliced

/-- length-prefixed frames over `Nat` symbols: the framing of the witnesses -/
def lp : Framing Nat (List Nat) where
  enc p := p.length :: p
  dec b := match b with
    | [] => none
    | n :: rest => if n ≤ rest.length then some (rest.take n, rest.drop n) else none
  dec_enc := by
    intro f rest
    simp
  dec_nil := rfl

end HC.Stream.WsWire
