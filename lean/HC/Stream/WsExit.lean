import HC.Stream.WsLemmas
/-!
# The whole life of a WebSocket application, as the wire sees it (C05)

`run` feeds the stream an arbitrary interleaving of what the application sends (`Op.app m`: any message, accepted or
refused — a refused one raises into the application, which may catch it and go on, or die with it) and what the protocol
hands the stream from the client (`Op.inp i`: bytes / the loss of the connection); `life` then lets the application end
(`app_send(None)`, which `_handle` always runs: HC/Props/C05 first section).  The invariant `Inv` counts, on everything the
stream has handed to the protocol so far, the response heads, the ends of a response body and the close frames, and ties
the counts to `self.state` and to wsproto's connection state — the same for both carriers (HTTP/1.1 upgrade, HTTP/2
extended CONNECT): the stream talks to either protocol through these events only.
-/
namespace HC.Stream.WsExit
open HC HC.Stream HC.Stream.Ws HC.Extracted

def isHead : Ev → Bool
  | .response _ _ => true
  | _ => false

def isEnd : Ev → Bool
  | .endBody => true
  | _ => false

def isCloseFrame : Ev → Bool
  | .data (.close _) => true
  | _ => false

/-- response heads / ends of a response body / close frames handed to the protocol -/
def heads (w : List Ev) : Nat := w.countP isHead
def ends (w : List Ev) : Nat := w.countP isEnd
def closes (w : List Ev) : Nat := w.countP isCloseFrame

@[simp] theorem heads_nil : heads [] = 0 := rfl
@[simp] theorem ends_nil : ends [] = 0 := rfl
@[simp] theorem closes_nil : closes [] = 0 := rfl
@[simp] theorem heads_append (a b : List Ev) : heads (a ++ b) = heads a + heads b := by simp [heads, List.countP_append]
@[simp] theorem ends_append (a b : List Ev) : ends (a ++ b) = ends a + ends b := by simp [ends, List.countP_append]
@[simp] theorem closes_append (a b : List Ev) : closes (a ++ b) = closes a + closes b := by simp [closes, List.countP_append]
@[simp] theorem heads_cons (e : Ev) (b : List Ev) : heads (e :: b) = (if isHead e then 1 else 0) + heads b := by
  simp [heads, List.countP_cons]; omega
@[simp] theorem ends_cons (e : Ev) (b : List Ev) : ends (e :: b) = (if isEnd e then 1 else 0) + ends b := by
  simp [ends, List.countP_cons]; omega
@[simp] theorem closes_cons (e : Ev) (b : List Ev) : closes (e :: b) = (if isCloseFrame e then 1 else 0) + closes b := by
  simp [closes, List.countP_cons]; omega

/-- what the application and the client do to the stream, in any order -/
inductive Op where
  | app (m : Msg)          -- the application sends `m` (accepted or refused)
  | inp (i : In)           -- the protocol hands over bytes of the client / the loss of the connection
deriving Repr, DecidableEq

/-- one operation: new stream state and the events handed to the protocol -/
def step (token : Bytes → Bytes) (ext : Option Bytes) (s : S) : Op → S × List Ev
  | .app m => ((appSend token ext s (some m)).1, (appSend token ext s (some m)).2.1)
  | .inp i => ((handle s i).1, (handle s i).2.2.1)

def run (token : Bytes → Bytes) (ext : Option Bytes) (s : S) : List Op → S × List Ev
  | [] => (s, [])
  | o :: rest =>
    ((run token ext (step token ext s o).1 rest).1, (step token ext s o).2 ++ (run token ext (step token ext s o).1 rest).2)

/-- the application's messages only -/
def feed (token : Bytes → Bytes) (ext : Option Bytes) (s : S) (ms : List Msg) : S × List Ev :=
  run token ext s (ms.map Op.app)

/-- everything the stream hands to the protocol over the application's whole life: `ops`, then the application ends -/
def life (token : Bytes → Bytes) (ext : Option Bytes) (s : S) (ops : List Op) : List Ev :=
  (run token ext s ops).2 ++ (appSend token ext (run token ext s ops).1 none).2.1

/-- the counts as `self.state` and wsproto's state determine them, while the stream is not closed -/
def Live (s : S) (w : List Ev) : Prop :=
  match s.st with
  | .handshake => heads w = 0 ∧ ends w = 0 ∧ closes w = 0 ∧ s.conn = none
  | .response => heads w = 1 ∧ ends w = 0 ∧ closes w = 0 ∧ s.conn = none
  | .httpClosed => heads w = 1 ∧ ends w = 1 ∧ closes w = 0 ∧ s.conn = none
  | .connected => heads w = 1 ∧ ends w = 0 ∧ ∃ c, s.conn = some c ∧ c ≠ .remoteClosing ∧ closes w = (if c = .open then 0 else 1)
  | .closed => heads w = 1 ∧ ends w = 0 ∧ ∃ c, s.conn = some c ∧ c ≠ .remoteClosing ∧ c ≠ .open ∧ closes w = 1

def Inv (s : S) (w : List Ev) : Prop :=
  heads w ≤ 1 ∧ ends w ≤ 1 ∧ closes w ≤ 1 ∧ (s.closed = false → Live s w)

theorem live_bounds (s : S) (w : List Ev) (h : Live s w) : heads w ≤ 1 ∧ ends w ≤ 1 ∧ closes w ≤ 1 := by
  unfold Live at h
  cases hst : s.st <;> simp only [hst] at h
  · omega
  · obtain ⟨h1, h2, c, _, _, h3⟩ := h
    refine ⟨by omega, by omega, ?_⟩
    rw [h3]; split <;> omega
  · omega
  · obtain ⟨h1, h2, c, _, _, _, h3⟩ := h
    omega
  · omega

/-- a stream fresh from a valid handshake -/
theorem inv_init (s : S) (hst : s.st = .handshake) (hconn : s.conn = none) : Inv s [] := by
  refine ⟨by simp, by simp, by simp, fun _ => ?_⟩
  simp [Live, hst, hconn]

/-- `_send_wsproto_event`: the stream itself does not move; with a connection object the frame goes out iff wsproto takes it -/
theorem sendWs_spec (s : S) (o : WsOut) (c : ConnSt) (hc : s.conn = some c) :
    (sendWs s o).2.2 = none ∧
    ((connSend c o = none ∧ sendWs s o = (s, [], none)) ∨
     (∃ c', connSend c o = some c' ∧ sendWs s o = ({ s with conn := some c' }, [.data o], none))) := by
  unfold sendWs
  simp only [hc]
  cases hk : connSend c o <;> simp

/-- `_send_rejection` in HANDSHAKE / RESPONSE: what it adds to the counts, by the state it ends in -/
theorem sendRejection_counts (s : S) (body : Option HV) (more : Bool) (hs : s.st = .handshake ∨ s.st = .response) :
    let r := sendRejection s body more
    r.1.conn = s.conn ∧ r.1.closed = s.closed ∧ closes r.2.1 = 0 ∧
    ((r.1 = s ∧ r.2.1 = []) ∨
     (r.1.st = .response ∧ ends r.2.1 = 0 ∧ heads r.2.1 = (if s.st = .handshake then 1 else 0)) ∨
     (r.1.st = .httpClosed ∧ ends r.2.1 = 1 ∧ heads r.2.1 = (if s.st = .handshake then 1 else 0))) := by
  dsimp only
  have h := rejected_sendRejection s body more
  generalize sendRejection s body more = o at h ⊢
  -- row by row of `Rejected`: a head only out of HANDSHAKE (`headPart`, `headLast`), an end only on the last message
  cases h <;> (try cases ‹DenialBody _›) <;> simp_all [isHead, isEnd, isCloseFrame]

/-- `Live` only looks at `st`, `conn` and the counts: events that are neither a response head, nor the end of a body, nor a
    close frame leave it alone -/
theorem live_quiet (s s' : S) (w evs : List Ev) (h : Live s w) (hst : s'.st = s.st) (hc : s'.conn = s.conn)
    (hh : heads evs = 0) (he : ends evs = 0) (hk : closes evs = 0) : Live s' (w ++ evs) := by
  unfold Live at *
  rw [hst, hc, heads_append, ends_append, closes_append, hh, he, hk]
  exact h

/-- **one message of the application (or its end) keeps the invariant**: row by row through `Ws.Sent` -/
theorem live_appSend (token : Bytes → Bytes) (ext : Option Bytes) (s : S) (m : Option Msg) (w : List Ev)
    (hcl : s.closed = false) (hL : Live s w) :
    (appSend token ext s m).1.closed = false ∧ Live (appSend token ext s m).1 (w ++ (appSend token ext s m).2.1) := by
  have h := sent_appSend token ext s m
  generalize appSend token ext s m = o at h ⊢
  have same : ∀ e : Option PyErr, (s, ([] : List Ev), e).1.closed = false ∧ Live s (w ++ []) := fun _ => ⟨hcl, by simpa using hL⟩
  cases h with
  | inert | refused => exact same _
  | exit500 _ hst | close403 _ hst =>
    simp only [Live, hst] at hL
    simp [Live, hcl, hL, errorResponse, isHead, isEnd, isCloseFrame]
  | exit => exact ⟨hcl, live_quiet s s w _ hL rfl rfl rfl rfl rfl⟩
  | respStart => exact ⟨hcl, live_quiet s _ w _ hL rfl rfl rfl rfl rfl⟩
  | accept _ hst =>
    simp only [Live, hst] at hL
    cases s.pingInterval <;> simp [Live, hcl, hL, isHead, isEnd, isCloseFrame]
  | respBody _ hor hr =>
    cases hr with
    | refused => exact same _
    | headPart hst hb | headLast hst hb =>
      simp only [Live, hst] at hL
      cases hb <;> simp [Live, hcl, hL, isHead, isEnd, isCloseFrame]
    | part hne hb => exact ⟨hcl, live_quiet s s w _ hL rfl rfl (by cases hb <;> rfl) (by cases hb <;> rfl) (by cases hb <;> rfl)⟩
    | last hne hb =>
      have hst : s.st = .response := hor.resolve_left hne
      simp only [Live, hst] at hL
      cases hb <;> simp [Live, hcl, hL, isHead, isEnd, isCloseFrame]
  | send _ hst hw =>
    cases hw with
    | noConn | refused => exact same _
    | sent hc => exact ⟨hcl, live_quiet s _ w _ hL rfl hc.symm rfl rfl rfl⟩
    | sentClose _ hk | echoedClose _ hk => cases hk
  | exit1011 _ hst hw =>
    simp only [Live, hst] at hL
    obtain ⟨h1, h2, c, hc, hnr, h3⟩ := hL
    cases hw with
    | refused => exact ⟨hcl, by simp [Live, hst, h1, h2, h3, hc, hnr, isHead, isEnd, isCloseFrame]⟩
    | sent _ hk => exact absurd rfl (hk 1011)
    | sentClose ho => rw [ho] at hc; cases hc; simp_all [Live, isHead, isEnd, isCloseFrame]
    | echoedClose hr => rw [hr] at hc; cases hc; exact absurd rfl hnr
  | close _ hst _ hw =>
    simp only [Live, hst] at hL
    obtain ⟨h1, h2, c, hc, hnr, h3⟩ := hL
    cases hw with
    | refused hc' hno => simp_all [Live, isHead, isEnd, isCloseFrame]
    | sent _ hk => exact absurd rfl (hk _)
    | sentClose ho => rw [show s.conn = _ from ho] at hc; cases hc; simp_all [Live, isHead, isEnd, isCloseFrame]
    | echoedClose hr => rw [show s.conn = _ from hr] at hc; cases hc; exact absurd rfl hnr

theorem inv_appSend (token : Bytes → Bytes) (ext : Option Bytes) (s : S) (m : Option Msg) (w : List Ev) (hI : Inv s w) :
    Inv (appSend token ext s m).1 (w ++ (appSend token ext s m).2.1) := by
  by_cases hcl : s.closed = true
  · simpa [appSend, hcl] using hI
  · have hcl' : s.closed = false := by simpa using hcl
    obtain ⟨k1, k2⟩ := live_appSend token ext s m w hcl' (hI.2.2.2 hcl')
    obtain ⟨b1, b2, b3⟩ := live_bounds _ _ k2
    exact ⟨b1, b2, b3, fun _ => k2⟩

/-! ### what the client's bytes do to the counts -/

/-- close frames wsproto has produced, as its connection state records them -/
def sent : Option ConnSt → Nat
  | some .localClosing => 1
  | some .closed => 1
  | _ => 0

/-- REMOTE_CLOSING is never left standing: the echo is sent in the same step -/
def settled (c : Option ConnSt) : Prop := c ≠ some .remoteClosing

/-- what `_handle_events` keeps and counts, as a relation between the stream before and the outcome: the stream's own state does not
    move, no response head or end of body is produced, wsproto's state stays settled and accounts for every close frame -/
def Counted (s : S) (r : HOut) : Prop :=
  r.1.st = s.st ∧ r.1.closed = s.closed ∧ heads r.2.2.1 = 0 ∧ ends r.2.2.1 = 0 ∧
  r.1.conn.isSome = s.conn.isSome ∧ settled r.1.conn ∧ sent s.conn + closes r.2.2.1 = sent r.1.conn

theorem _root_.HC.Stream.Ws.WsSent.counted {s : S} {o : WsOut} {s1 : S} {e : List Ev} {err : Option PyErr} (h : WsSent s o (s1, e, err))
    (hg : settled s.conn) : Counted s (s1, [], e, err) := by
  -- a close frame goes out exactly on the rows that take wsproto to LOCAL_CLOSING / CLOSED (`sentClose`, `echoedClose`)
  cases h <;> cases o <;> simp_all [Counted, settled, sent, isHead, isEnd, isCloseFrame]

theorem stepEv_counted (s : S) (ev : WsEv) (hg : settled s.conn) : Counted s (stepEv s ev).1 := by
  have h := stepped_stepEv s ev
  generalize (stepEv s ev).1 = r, (stepEv s ev).2 = go at h ⊢
  cases h with
  | tooLarge _ hw | ping hw => exact hw.counted hg
  | closeQuiet ho hr =>
    -- wsproto moves from LOCAL_CLOSING to CLOSED or stays where it is
    cases hc : s.conn with
    | none => simp [Counted, hc, settled, sent, isHead, isEnd, isCloseFrame]
    | some c => cases c <;> simp_all [Counted, connRecvClose, settled, sent, isHead, isEnd, isCloseFrame]
  | _ => simp_all [Counted, settled, sent, isHead, isEnd, isCloseFrame]

/-- **`_handle_events`**, any events, from any settled state of the connection: `Counted`, spelt out -/
theorem handleEvents_counts (evs : List WsEv) : ∀ s : S, settled s.conn →
    (handleEvents s evs).1.st = s.st ∧ (handleEvents s evs).1.closed = s.closed ∧
    heads (handleEvents s evs).2.2.1 = 0 ∧ ends (handleEvents s evs).2.2.1 = 0 ∧
    (handleEvents s evs).1.conn.isSome = s.conn.isSome ∧ settled (handleEvents s evs).1.conn ∧
    sent s.conn + closes (handleEvents s evs).2.2.1 = sent (handleEvents s evs).1.conn :=
  handleEvents_induct (P := fun s => settled s.conn) (R := fun s _ r => Counted s r)
    (fun s hg => by simp [Counted, hg]) (fun s ev _ hg => stepEv_counted s ev hg) (fun _ _ _ _ h => h.2.2.2.2.2.1)
    (fun s _ _ r1 r2 h1 h2 => by
      obtain ⟨a1, a2, a3, a4, a5, _, a7⟩ := h1
      obtain ⟨b1, b2, b3, b4, b5, b6, b7⟩ := h2
      refine ⟨b1.trans a1, b2.trans a2, by simp [HOut.seq, a3, b3], by simp [HOut.seq, a4, b4], b5.trans a5, b6, ?_⟩
      simp only [HOut.seq, closes_append]; omega) evs

/-- `Live` in one piece: the counts as functions of `self.state` and of wsproto's state.  (`Live` is by cases on `self.state`, for
    a row of the table that fixes the state; this is the form to use when the state is not known.) -/
theorem live_iff (s : S) (w : List Ev) : Live s w ↔
    heads w = (if s.st = .handshake then 0 else 1) ∧ ends w = (if s.st = .httpClosed then 1 else 0) ∧ closes w = sent s.conn ∧
    settled s.conn ∧ (s.conn.isSome = true ↔ s.st = .connected ∨ s.st = .closed) ∧ (s.st = .closed → s.conn ≠ some .open) := by
  cases hst : s.st <;> cases hc : s.conn with
  | none => simp [Live, hst, hc, sent, settled]
  | some c => cases c <;> simp [Live, hst, hc, sent, settled]

/-- **bytes of the client / the loss of the connection keep the invariant** -/
theorem inv_handle (s : S) (i : In) (w : List Ev) (hI : Inv s w) : Inv (handle s i).1 (w ++ (handle s i).2.2.1) := by
  have hh := handled_handle s i
  generalize handle s i = o at hh ⊢
  cases hh with
  | closed | ignored => simpa using hI
  | lost hcl =>
    obtain ⟨b1, b2, b3⟩ := live_bounds s w (hI.2.2.2 hcl)
    exact ⟨by simpa using b1, by simpa using b2, by simpa using b3, fun h => by simp at h⟩
  | early hcl _ hst =>
    have hL := hI.2.2.2 hcl
    simp only [Live, hst] at hL
    refine ⟨?_, ?_, ?_, fun h => by simp at h⟩ <;> simp [hL.1, hL.2.1, hL.2.2.1, errorResponse, isHead, isEnd, isCloseFrame]
  | @events evs hcl _ =>
    obtain ⟨l1, l2, l3, l4, l5, l6⟩ := (live_iff s w).mp (hI.2.2.2 hcl)
    obtain ⟨k1, k2, k3, k4, k5, k6, k7⟩ := handleEvents_counts evs s l4
    have hlive : Live (handleEvents s evs).1 (w ++ (handleEvents s evs).2.2.1) := by
      rw [live_iff]
      refine ⟨by simp [k1, k3, l1], by simp [k1, k4, l2], by simp only [closes_append, l3, k7], k6, by rw [k5, k1]; exact l5, ?_⟩
      -- in CLOSED a close frame has gone out, so wsproto cannot be OPEN afterwards
      intro hst ho
      rw [k1] at hst
      have hs1 : sent s.conn = 1 := by
        cases hc : s.conn with
        | none => simp [hc, hst] at l5
        | some c => cases c <;> simp_all [settled, sent]
      have z : sent (some ConnSt.open) = 0 := rfl
      rw [ho, z] at k7
      omega
    obtain ⟨c1, c2, c3⟩ := live_bounds _ _ hlive
    exact ⟨c1, c2, c3, fun _ => hlive⟩

theorem inv_step (token : Bytes → Bytes) (ext : Option Bytes) (s : S) (o : Op) (w : List Ev) (hI : Inv s w) :
    Inv (step token ext s o).1 (w ++ (step token ext s o).2) := by
  cases o with
  | app m => exact inv_appSend token ext s (some m) w hI
  | inp i => exact inv_handle s i w hI

/-- **the invariant holds after any interleaving of application messages and client input** -/
theorem inv_run (token : Bytes → Bytes) (ext : Option Bytes) (ops : List Op) :
    ∀ (s : S) (w : List Ev), Inv s w → Inv (run token ext s ops).1 (w ++ (run token ext s ops).2) := by
  induction ops with
  | nil => intro s w h; simpa [run] using h
  | cons o rest ih =>
    intro s w h
    have h1 := inv_step token ext s o w h
    have h2 := ih _ _ h1
    simpa [run, List.append_assoc] using h2

/-! ### the application's messages alone -/

/-- while only the application acts: the stream is not closed, and CONNECTED means wsproto is OPEN -/
def AppInv (s : S) : Prop := s.closed = false ∧ (s.st = .connected → s.conn = some .open)

theorem appInv_appSend (token : Bytes → Bytes) (ext : Option Bytes) (s : S) (msg : Msg) (h : AppInv s) :
    AppInv (appSend token ext s (some msg)).1 := by
  have hs := sent_appSend token ext s (some msg)
  generalize appSend token ext s (some msg) = o at hs ⊢
  obtain ⟨s', evs, err⟩ := o
  -- `accept` opens the connection as it enters CONNECTED; a message that leaves the stream in CONNECTED leaves wsproto's state
  obtain ⟨hc, _, ⟨_, _, _, h4⟩ | ⟨_, _, _, hcon, _, hsame⟩⟩ := hs.moves
  · exact ⟨hc ▸ h.1, fun _ => h4⟩
  · exact ⟨hc ▸ h.1, fun h' => (hsame h' rfl).trans (h.2 (hcon h'))⟩

theorem appInv_feed (token : Bytes → Bytes) (ext : Option Bytes) (ms : List Msg) :
    ∀ s : S, AppInv s → AppInv (feed token ext s ms).1 := by
  induction ms with
  | nil => intro s h; simpa [feed, run] using h
  | cons m rest ih =>
    intro s h
    have := ih _ (appInv_appSend token ext s m h)
    simpa [feed, run, step] using this

end HC.Stream.WsExit
