import HC.Prelude
import HC.Extracted.Cli
import HC.Extracted.Consts
import HC.Extracted.ConfigSites
/-!
# Model of `hypercorn/config.py` (setters, loaders, bind parsing and the loop of `_create_sockets`, response headers, the
# IMF-fixdate of the `date` header: `civil` … `formatDate`) and of the command-line wiring of `hypercorn/__main__.py` (semantics
# of the *extracted* table).  Lemmas that say what a definition does stand next to it.
-/
namespace HC.Config
open HC HC.Extracted

/-! ## Command line: semantics of "parse argv, then run the `if args.X is not sentinel: config.Y = args.Z` list" -/

/-- what argparse produced: `dest ↦ some v` when the flag was given (for `append` flags: a non-empty list) -/
abbrev Given := String → Option String

/-- one executed assignment `config.attr = value`; `none` = the argparse `sentinel` object leaked into the config -/
abbrev Assign := String × Option String

def fires (g : Given) (w : Cli.Wire) : Bool :=
  w.kind == "always" || (g w.guard).isSome

def assignments (ws : List Cli.Wire) (g : Given) : List Assign :=
  (ws.filter (fires g)).map (fun w => (w.attr, g w.source))

/-- exactly the flags in `ds` were given (each with a value), plus the positional application -/
def givenOf (app : String) (ds : List (String × String)) : Given := fun x =>
  if x = "application" then some app else ds.lookup x

/-! ## Config setters -/

def rstripSlash (s : List Char) : List Char := (s.reverse.dropWhile (· == '/')).reverse

inductive Val where
  | str (s : List Char)
  | strs (l : List (List Char))
  | other (repr : String)           -- any value the model does not look into
  | verifyMode (repr : String)      -- `ssl.VerifyMode(<repr>)`: what the write-only `cert_reqs` setter stores under `verify_mode`
deriving Repr, DecidableEq

/-- attributes that are read-only properties: `setattr` raises AttributeError, which `from_mapping` swallows -/
def readOnly : List String := ["log", "ssl_enabled"]

/-- the attribute actually written and the stored value for `setattr(config, key, value)` -/
def setattrNorm (key : String) (v : Val) : Option (String × Val) :=
  if key ∈ readOnly then none
  else if key = "bind" ∨ key = "insecure_bind" ∨ key = "quic_bind" then
    some ("_" ++ key, match v with | .str s => .strs [s] | v => v)
  else if key = "root_path" then
    some ("_root_path", match v with | .str s => .str (rstripSlash s) | v => v)
  else if key = "cert_reqs" then
    -- `cert_reqs = property(None, set_cert_reqs)`: `self.verify_mode = VerifyMode(value)` (a member stays itself)
    some ("verify_mode", match v with | .other r => .verifyMode r | v => v)
  else some (key, v)

abbrev Store := List (String × Val)      -- instance `__dict__`, last write wins

def Store.set (st : Store) (k : String) (v : Val) : Store := (k, v) :: st.filter (·.1 != k)

/-- one statement in front of the `setattr` of `from_mapping`'s loop: does it let the key through? -/
def mapClauseKeeps : ConfigSites.MapClause → String → Bool
  | .readable, k => ConfigSites.readableKeys.contains k       -- `if not hasattr(config, key): continue`
  | .unrecognised, _ => true                                  -- a loop the extractor could not read (the tie is reported broken)

/-- the guards of the current source's loop (*extracted*; none in the pinned source): is the key handed to `setattr`? -/
def mapKeeps (k : String) : Bool := ConfigSites.fromMappingGuards.all (fun c => mapClauseKeeps c k)

/-- the loop without guards: every key is handed to `setattr`, only `AttributeError` (a read-only property) is swallowed -/
def fromMappingU (kvs : List (String × Val)) : Store :=
  kvs.foldl (fun st (k, v) => match setattrNorm k v with | some (k', v') => st.set k' v' | none => st) []

/-- `Config.from_mapping` as the current source has it -/
def fromMapping (kvs : List (String × Val)) : Store := fromMappingU (kvs.filter (fun kv => mapKeeps kv.1))

/-- when the loop has no guard that skips a key, `from_mapping` hands every key to `setattr` (the hypothesis is discharged
    against the extracted guards in `HC/Props/C19.lean`: `from_mapping_guard_spec`) -/
theorem fromMapping_eq (hg : ∀ k, mapKeeps k = true) (kvs : List (String × Val)) : fromMapping kvs = fromMappingU kvs := by
  unfold fromMapping
  congr 1
  rw [List.filter_eq_self]
  intro kv _
  exact hg kv.1

theorem Store.lookup_set_self (st : Store) (k : String) (v : Val) : (st.set k v).lookup k = some v := by
  simp [Store.set]

theorem Store.lookup_set_ne (st : Store) (k k' : String) (v : Val) (h : k' ≠ k) : (st.set k v).lookup k' = st.lookup k' := by
  have hb : (k' == k) = false := by simpa using h
  simp only [Store.set, List.lookup, hb]
  induction st with
  | nil => rfl
  | cons a t ih =>
    obtain ⟨a1, a2⟩ := a
    by_cases ha : a1 = k
    · subst ha; simp [List.lookup, hb, ih]
    · simp only [List.filter_cons, bne_iff_ne, ne_eq, ha, not_false_eq_true, if_true, List.lookup, ih]

/-- one more key: `setattr` on what the keys in front of it left -/
theorem fromMappingU_snoc (kvs : List (String × Val)) (k : String) (v : Val) :
    fromMappingU (kvs ++ [(k, v)]) =
      match setattrNorm k v with | some (k', v') => (fromMappingU kvs).set k' v' | none => fromMappingU kvs := by
  simp only [fromMappingU, List.foldl_append, List.foldl_cons, List.foldl_nil]

/-- what kind of Python object an attribute of the configuration object / module holds, as far as `from_object`'s filter
    can tell: a module (`import os` in a configuration file), a class (`logger_class`), a function, or anything else -/
inductive AttrKind | plain | module | cls | func
deriving Repr, DecidableEq

structure Attr where
  name : String
  kind : AttrKind
  val : Val
deriving Repr, DecidableEq

def Attr.callable (a : Attr) : Bool := a.kind == .cls || a.kind == .func

/-- one conjunct of the comprehension's `if` -/
def clauseKeeps : ConfigSites.ObjClause → Attr → Bool
  | .notModule, a => a.kind != .module
  | .notDunder, a => !("__".isPrefixOf a.name)
  | .notCallable, a => !a.callable

/-- the filter of the current source: the conjunction of the *extracted* clauses -/
def objKeeps (a : Attr) : Bool := ConfigSites.fromObjectFilter.all (fun c => clauseKeeps c a)

/-- `from_object` (and through it `from_pyfile`, `-c file:`, `-c python:`): the attributes of the object that pass the
    filter go through `from_mapping` under their own names -/
def fromObject (attrs : List Attr) : Store :=
  fromMapping ((attrs.filter objKeeps).map (fun a => (a.name, a.val)))

/-! ## Bind strings (`Config._create_sockets`) -/

inductive Bind where
  | unix (path : List Char)
  | fd (n : Option Nat)                           -- `none`: `int()` raises
  | inet (v6 : Bool) (host : List Char) (port : Nat)
deriving Repr, DecidableEq

def digitVal (c : Char) : Option Nat := if '0' ≤ c ∧ c ≤ '9' then some (c.toNat - 48) else none

/-- `int(s)` for plain ASCII decimal strings (anything else: the model answers `none`, the code may accept more) -/
def parseNat (s : List Char) : Option Nat :=
  if s = [] then none else s.foldl (fun acc c => match acc, digitVal c with
    | some a, some d => some (10 * a + d) | _, _ => none) (some 0)

/-- `s.rsplit(":", 1)`: (before the last colon, after it) or none when there is no colon -/
def rsplitColon (s : List Char) : Option (List Char × List Char) :=
  let r := s.reverse
  let tail := r.takeWhile (· != ':')
  if tail.length = r.length then none else some ((r.drop (tail.length + 1)).reverse, tail.reverse)

/-- the `else` branch: brackets removed, `rsplit(":", 1)`, `int(port)` or the whole string with port 8000 -/
def parseInet (s : List Char) : Bind :=
  let bracketedHostOnly := s.head? == some '[' && s.getLast? == some ']'
  let b := s.filter (fun c => c != '[' && c != ']')
  let hp : List Char × Nat :=
    if bracketedHostOnly then (b, 8000)
    else match rsplitColon b with
      | some (h, p) => (match parseNat p with | some n => (h, n) | none => (b, 8000))
      | none => (b, 8000)
  -- `socket.AF_INET6 if <test> else socket.AF_INET`: the test is the *extracted* expression over the bind string as given,
  -- the bind string without brackets and the parsed host
  .inet (ConfigSites.inetIsV6 s b hp.1) hp.1 hp.2

def parseBind (s : List Char) : Bind :=
  if "unix:".toList.isPrefixOf s then .unix (s.drop 5)
  else if "fd://".toList.isPrefixOf s then .fd (parseNat (s.drop 5))
  else parseInet s

/-! ### The loop `for bind in binds` of `_create_sockets`

One call creates the sockets of a whole list (`bind`, `insecure_bind`, `quic_bind` are lists).  `ConfigSites.createSocketsCarried`
names the locals of the function whose value can reach an iteration from an earlier one (or from in front of the loop).  The
model follows the one that matters for the address: when `port` is carried, a bind string that names no port is bound to whatever
`port` holds when its iteration starts (`8000` in front of the loop, afterwards the port of the nearest earlier inet entry). -/

/-- does the inet bind string name a port (the branch `host, port = value[0], int(value[1])` of `parseInet`) -/
def inetPortGiven (s : List Char) : Bool :=
  let bracketedHostOnly := s.head? == some '[' && s.getLast? == some ']'
  let b := s.filter (fun c => c != '[' && c != ']')
  if bracketedHostOnly then false
  else match rsplitColon b with
    | some (_, p) => (parseNat p).isSome
    | none => false

def portCarried : Bool := ConfigSites.createSocketsCarried.contains "port"

/-- one iteration; `last` = what the local `port` holds when the iteration starts -/
def bindStep (last : Nat) (s : List Char) : Bind × Nat :=
  match parseBind s with
  | .inet v6 h p => if portCarried && !inetPortGiven s then (.inet v6 h last, last) else (.inet v6 h p, p)
  | b => (b, last)

def createSocketsFrom : Nat → List (List Char) → List Bind
  | _, [] => []
  | last, s :: rest => (bindStep last s).1 :: createSocketsFrom (bindStep last s).2 rest

/-- `_create_sockets(binds, type_)`: what each socket of the returned list is asked to be, in order -/
def createSockets (binds : List (List Char)) : List Bind := createSocketsFrom 8000 binds

/-! ## `Config.response_headers` -/

structure HeaderCfg where
  includeDate : Bool
  includeServer : Bool
  altSvc : List Bytes
deriving Repr, DecidableEq

def responseHeaders (c : HeaderCfg) (date : Bytes) (protocol : Bytes) : Headers :=
  (if c.includeDate then [("date".b, date)] else []) ++
  (if c.includeServer then [("server".b, "hypercorn-".b ++ protocol)] else []) ++
  c.altSvc.map (fun a => ("alt-svc".b, a))

theorem mem_responseHeaders (c : HeaderCfg) (date protocol : Bytes) (h : Header) :
    h ∈ responseHeaders c date protocol ↔
      (c.includeDate = true ∧ h = ("date".b, date)) ∨ (c.includeServer = true ∧ h = ("server".b, "hypercorn-".b ++ protocol)) ∨
      ∃ a ∈ c.altSvc, ("alt-svc".b, a) = h := by
  simp [responseHeaders]

/-! ## RFC 7231 IMF-fixdate (`wsgiref.handlers.format_date_time(time())`) -/

/-- civil from days since 1970-01-01 (Hinnant) -/
def civil (z0 : Nat) : Nat × Nat × Nat :=
  let z := z0 + 719468
  let era := z / 146097
  let doe := z - era * 146097
  let yoe := (doe - doe / 1460 + doe / 36524 - doe / 146096) / 365
  let y := yoe + era * 400
  let doy := doe - (365 * yoe + yoe / 4 - yoe / 100)
  let mp := (5 * doy + 2) / 153
  let d := doy - (153 * mp + 2) / 5 + 1
  let m := if mp < 10 then mp + 3 else mp - 9
  (if m ≤ 2 then y + 1 else y, m, d)

/-- every day number gives a calendar date: day 1..31, month 1..12, and days up to 9999-12-31 (day 2932896) a year of at
    most 9999.  The quantities of the algorithm are named and bounded one after the other, so that each `omega` sees one
    division at a time: `doe` (day of the 400-year era), `N` (`doe` with the leap days taken out), `yoe = N / 365`,
    `doy` (day of the year that starts on 1 March), `mp` (month counted from March).  The year bound is tight: in era 24
    the last admissible day has `yoe = 399` and `doy = 305`, which is still December (`mp = 9`), so the `+ 1` of
    January/February does not apply. -/
theorem civil_range (z0 : Nat) :
    1 ≤ (civil z0).2.2 ∧ (civil z0).2.2 ≤ 31 ∧ 1 ≤ (civil z0).2.1 ∧ (civil z0).2.1 ≤ 12 ∧
    (z0 ≤ 2932896 → (civil z0).1 ≤ 9999) := by
  simp only [civil]
  generalize hz : z0 + 719468 = z
  generalize hera : z / 146097 = era
  generalize hdoe : z - era * 146097 = doe
  have h1 : doe < 146097 ∧ (z0 ≤ 2932896 → era < 24 ∨ era = 24 ∧ doe ≤ 146036) := by omega
  clear hdoe hera hz
  generalize hN : doe - doe / 1460 + doe / 36524 - doe / 146096 = N
  have h2 : N ≤ doe ∧ doe ≤ N + 101 ∧ N < 146000 := by omega
  clear hN
  generalize hyoe : N / 365 = yoe
  generalize hdoy : doe - (365 * yoe + yoe / 4 - yoe / 100) = doy
  have h3 : yoe ≤ 399 ∧ doy ≤ 468 ∧ (yoe = 399 → doy = doe - 145731) := by omega
  clear hyoe hdoy h2
  generalize hmp : (5 * doy + 2) / 153 = mp
  refine ⟨by omega, by omega, by split <;> omega, by split <;> omega, fun h => ?_⟩
  split <;> split <;> omega

structure Fields where
  wd : Nat
  day : Nat
  mon : Nat
  year : Nat
  hh : Nat
  mm : Nat
  ss : Nat
deriving Repr, DecidableEq

def fields (t : Nat) : Fields :=
  let days := t / 86400
  let rem := t % 86400
  let c := civil days
  { wd := (days + 3) % 7, day := c.2.2, mon := c.2.1, year := c.1, hh := rem / 3600, mm := rem % 3600 / 60, ss := rem % 60 }

def dig (n : Nat) : Char := Char.ofNat (48 + n % 10)
def pad2 (n : Nat) : List Char := [dig (n / 10), dig n]
def pad4 (n : Nat) : List Char := [dig (n / 1000), dig (n / 100), dig (n / 10), dig n]

def weekdays : List (List Char) := [['M', 'o', 'n'], ['T', 'u', 'e'], ['W', 'e', 'd'], ['T', 'h', 'u'], ['F', 'r', 'i'], ['S', 'a', 't'], ['S', 'u', 'n']]
def months : List (List Char) :=
  [['J', 'a', 'n'], ['F', 'e', 'b'], ['M', 'a', 'r'], ['A', 'p', 'r'], ['M', 'a', 'y'], ['J', 'u', 'n'], ['J', 'u', 'l'], ['A', 'u', 'g'], ['S', 'e', 'p'], ['O', 'c', 't'], ['N', 'o', 'v'], ['D', 'e', 'c']]

def render (f : Fields) : List Char :=
  weekdays[f.wd]?.getD [] ++ [',', ' '] ++ pad2 f.day ++ [' '] ++ months[f.mon - 1]?.getD [] ++ [' '] ++ pad4 f.year ++ [' '] ++
  pad2 f.hh ++ [':'] ++ pad2 f.mm ++ [':'] ++ pad2 f.ss ++ [' ', 'G', 'M', 'T']

def formatDate (t : Nat) : List Char := render (fields t)

theorem name_length (tbl : List (List Char)) (h : ∀ s ∈ tbl, s.length = 3) (i : Nat) (hi : i < tbl.length) :
    (tbl[i]?.getD []).length = 3 := by
  rw [List.getElem?_eq_getElem hi]
  exact h _ (List.getElem_mem hi)

theorem render_length (f : Fields) (hw : f.wd < 7) (hm12 : f.mon ≤ 12) : (render f).length = 29 := by
  have hw := name_length weekdays (by decide) f.wd hw
  have hm := name_length months (by decide) (f.mon - 1) (show f.mon - 1 < 12 by omega)
  unfold render
  generalize weekdays[f.wd]?.getD [] = w at hw
  generalize months[f.mon - 1]?.getD [] = m at hm
  simp only [List.length_append, List.length_cons, List.length_nil, pad2, pad4, hw, hm]

end HC.Config
