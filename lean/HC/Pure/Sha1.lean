import HC.Prelude
/-!
# SHA-1 (FIPS 180-4) and base64 (RFC 4648, standard alphabet, padding) over `List UInt8`

Executable specification of the RFC 6455 `Sec-WebSocket-Accept` token:
`acceptToken key = base64 (sha1 (key ++ "258EAFA5-E914-47DA-95CA-C5AB0DC85B11"))`.

Everything is total and structurally recursive (folds over the padded message, one 64-byte block at a time; the
message schedule is a rolling window of 16 words), core Lean only.  The test vectors at the end are checked by the
kernel (`decide +kernel`: plain kernel evaluation of the `Decidable` instance, no compiler, no extra axiom).
-/
namespace HC.Pure.Sha1
open HC

def rotl (x : UInt32) (n : UInt32) : UInt32 := (x <<< n) ||| (x >>> (32 - n))

/-- big-endian bytes of a 32-bit word -/
def wordBytes (w : UInt32) : Bytes :=
  [(w >>> 24).toUInt8, (w >>> 16).toUInt8, (w >>> 8).toUInt8, w.toUInt8]

/-- the 64-bit big-endian bit length -/
def lenBytes (nBytes : Nat) : Bytes :=
  let bits := nBytes * 8
  [56, 48, 40, 32, 24, 16, 8, 0].map (fun sh => ((bits >>> sh) % 256).toUInt8)

/-- `msg ++ 0x80 ++ 0…0 ++ len64`, a multiple of 64 bytes -/
def pad (msg : Bytes) : Bytes :=
  msg ++ [0x80] ++ List.replicate ((119 - msg.length % 64) % 64) 0 ++ lenBytes msg.length

/-- four bytes → one big-endian word; the words of a byte list (a trailing group of < 4 bytes is dropped:
    `pad` always produces a multiple of 64) -/
def words : Bytes → List UInt32
  | a :: b :: c :: d :: rest =>
    ((a.toUInt32 <<< 24) ||| (b.toUInt32 <<< 16) ||| (c.toUInt32 <<< 8) ||| d.toUInt32) :: words rest
  | _ => []

structure H5 where
  a : UInt32
  b : UInt32
  c : UInt32
  d : UInt32
  e : UInt32
deriving Repr, DecidableEq

def H5.init : H5 := ⟨0x67452301, 0xEFCDAB89, 0x98BADCFE, 0x10325476, 0xC3D2E1F0⟩

def H5.add (x y : H5) : H5 := ⟨x.a + y.a, x.b + y.b, x.c + y.c, x.d + y.d, x.e + y.e⟩

def fk (t : Nat) (b c d : UInt32) : UInt32 × UInt32 :=
  if t < 20 then ((b &&& c) ||| ((~~~ b) &&& d), 0x5A827999)
  else if t < 40 then (b ^^^ c ^^^ d, 0x6ED9EBA1)
  else if t < 60 then ((b &&& c) ||| (b &&& d) ||| (c &&& d), 0x8F1BBCDC)
  else (b ^^^ c ^^^ d, 0xCA62C1D6)

/-- one of the 80 rounds: `win` is the rolling window `w[t] … w[t+15]` -/
def round (t : Nat) (h : H5) (win : List UInt32) : H5 × List UInt32 :=
  match win with
  | w0 :: w1 :: w2 :: w3 :: w4 :: w5 :: w6 :: w7 :: w8 :: w9 :: w10 :: w11 :: w12 :: w13 :: w14 :: w15 :: _ =>
    let (f, k) := fk t h.b h.c h.d
    let tmp := rotl h.a 5 + f + h.e + k + w0
    (⟨tmp, h.a, rotl h.b 30, h.c, h.d⟩,
     [w1, w2, w3, w4, w5, w6, w7, w8, w9, w10, w11, w12, w13, w14, w15, rotl (w13 ^^^ w8 ^^^ w2 ^^^ w0) 1])
  | _ => (h, win)      -- not a 16-word window: cannot happen for a 64-byte block

def rounds : Nat → Nat → H5 → List UInt32 → H5
  | 0, _, h, _ => h
  | n + 1, t, h, win => let (h', win') := round t h win; rounds n (t + 1) h' win'

/-- compression of one 64-byte block -/
def compress (h : H5) (block : Bytes) : H5 := h.add (rounds 80 0 h (words block))

/-- fold state: chaining value, bytes of the current block (reversed), how many of them -/
structure Acc where
  h : H5
  cur : Bytes
  n : Nat

def feedByte (acc : Acc) (b : UInt8) : Acc :=
  if acc.n + 1 = 64 then { h := compress acc.h (b :: acc.cur).reverse, cur := [], n := 0 }
  else { acc with cur := b :: acc.cur, n := acc.n + 1 }

def sha1 (msg : Bytes) : Bytes :=
  let acc := (pad msg).foldl feedByte { h := H5.init, cur := [], n := 0 }
  wordBytes acc.h.a ++ wordBytes acc.h.b ++ wordBytes acc.h.c ++ wordBytes acc.h.d ++ wordBytes acc.h.e

/-! ## base64 -/

def b64Char (n : UInt8) : UInt8 :=
  if n < 26 then 65 + n            -- A–Z
  else if n < 52 then 97 + (n - 26)  -- a–z
  else if n < 62 then 48 + (n - 52)  -- 0–9
  else if n = 62 then 43            -- +
  else 47                           -- /

def base64 : Bytes → Bytes
  | a :: b :: c :: rest =>
    b64Char (a >>> 2) :: b64Char (((a &&& 3) <<< 4) ||| (b >>> 4)) :: b64Char (((b &&& 15) <<< 2) ||| (c >>> 6)) ::
      b64Char (c &&& 63) :: base64 rest
  | [a, b] => [b64Char (a >>> 2), b64Char (((a &&& 3) <<< 4) ||| (b >>> 4)), b64Char ((b &&& 15) <<< 2), 61]
  | [a] => [b64Char (a >>> 2), b64Char ((a &&& 3) <<< 4), 61, 61]
  | [] => []

def guid : Bytes := "258EAFA5-E914-47DA-95CA-C5AB0DC85B11".b

/-- RFC 6455 §4.2.2: `Sec-WebSocket-Accept` for a given `Sec-WebSocket-Key` -/
def acceptToken (key : Bytes) : Bytes := base64 (sha1 (key ++ guid))

/-- value of one lower-case hexadecimal digit (test-vector notation only) -/
def hexVal (c : UInt8) : UInt8 := if c < 58 then c - 48 else c - 87

/-- `ofHex "a999…"`: the bytes written in hexadecimal (test-vector notation only) -/
def ofHexB : Bytes → Bytes
  | a :: b :: rest => ((hexVal a <<< 4) ||| hexVal b) :: ofHexB rest
  | _ => []

def ofHex (s : String) : Bytes := ofHexB s.b

/-! ## structural facts -/

theorem base64_length (bs : Bytes) : (base64 bs).length = 4 * ((bs.length + 2) / 3) := by
  induction bs using base64.induct with
  | case1 a b c rest ih => simp only [base64, List.length_cons, ih]; omega
  | case2 a b => simp [base64]
  | case3 a => simp [base64]
  | case4 => simp [base64]

theorem pad_length_mod (msg : Bytes) : (pad msg).length % 64 = 0 := by
  simp only [pad, lenBytes, List.length_append, List.length_cons, List.length_nil, List.length_replicate, List.length_map]
  omega

theorem wordBytes_length (w : UInt32) : (wordBytes w).length = 4 := rfl

/-- a SHA-1 digest is 20 bytes, so every accept token is 28 characters -/
theorem sha1_length (msg : Bytes) : (sha1 msg).length = 20 := by
  simp [sha1, wordBytes_length]

theorem acceptToken_length (key : Bytes) : (acceptToken key).length = 28 := by
  simp [acceptToken, base64_length, sha1_length]

/-! ## test vectors (kernel-checked) -/

-- FIPS 180 / RFC 3174
example : sha1 "abc".b = ofHex "a9993e364706816aba3e25717850c26c9cd0d89d" := by decide +kernel
example : sha1 [] = ofHex "da39a3ee5e6b4b0d3255bfef95601890afd80709" := by decide +kernel
-- two-block message (56 bytes → 128 padded)
example : sha1 "abcdbcdecdefdefgefghfghighijhijkijkljklmklmnlmnomnopnopq".b = ofHex "84983e441c3bd26ebaae4aa1f95129e5e54670f1" := by decide +kernel
-- RFC 4648 §10
example : base64 [] = [] := by decide +kernel
example : base64 "f".b = "Zg==".b := by decide +kernel
example : base64 "fo".b = "Zm8=".b := by decide +kernel
example : base64 "foo".b = "Zm9v".b := by decide +kernel
example : base64 "foob".b = "Zm9vYg==".b := by decide +kernel
example : base64 "fooba".b = "Zm9vYmE=".b := by decide +kernel
example : base64 "foobar".b = "Zm9vYmFy".b := by decide +kernel
-- RFC 6455 §1.3 sample handshake
theorem rfc6455_sample : acceptToken "dGhlIHNhbXBsZSBub25jZQ==".b = "s3pPLMBiTxaQ9kYGzzhZRbK+xOo=".b := by decide +kernel

end HC.Pure.Sha1
