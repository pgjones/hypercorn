import HC.Prelude
import HC.Pure.Middleware
import HC.Pure.Config
import HC.Pure.Wsgi
import HC.Pure.Utils
import HC.Stream.Http
import HC.Stream.HttpLemmas
import HC.Stream.Ws
import HC.Stream.WsLemmas
import HC.Stream.WsIter
import HC.Stream.AppExit
import HC.Stream.WsSpec
import HC.Stream.WsExit
import HC.Pure.Sha1
import HC.Lib.H11M
import HC.Proto.Heads
import HC.Proto.H11
import HC.Proto.H11Close
import HC.Proto.H11Moves
import HC.Proto.Wrapper
import HC.Proto.WrapperRun
import HC.Lib.H2Settings
import HC.Proto.H2Send
import HC.Proto.H2SendEvents
import HC.Proto.H2SendStep
import HC.Conn.Server
import HC.Conn.Inv
import HC.Worker.Lifespan
import HC.Worker.Run
import HC.Worker.Escape
import HC.Worker.LifeLemmas
import HC.Worker.Invariants
import HC.Worker.BlockedWrite
import HC.Props.C20
import HC.Props.C19
import HC.Props.C17
import HC.Props.C12
import HC.Props.C02
import HC.Props.C06
import HC.Props.C01
import HC.Props.C13
import HC.Props.C14
import HC.Props.C15
import HC.Props.C05
import HC.Props.C10
import HC.Props.C11
import HC.Props.C09
import HC.Props.C08
import HC.Conn.Shell
import HC.Extracted.Runtime
import HC.Extracted.AppExit
import HC.Extracted.H2Init
import HC.Extracted.Select
import HC.Extracted.WsGuards
import HC.Extracted.LifespanSend
import HC.Extracted.LifespanSites
import HC.Props.C16
import HC.Proto.H2Recv
import HC.Props.C03
import HC.Props.C04
import HC.Lib.H11Buf
import HC.Lib.H11MDead
import HC.Proto.H11Dead
import HC.Proto.H2Lim
import HC.Proto.EventRace
import HC.Worker.Recycle
import HC.Props.C18
import Driver.Conn
import HC.Extracted.ReqGlue
import HC.Extracted.WsgiSites
import HC.Extracted.ConfigSites
import HC.Extracted.RedirectSites
import HC.Proto.H2Credit
import HC.Proto.H2Abandon
import HC.Proto.H2Window
import HC.Stream.WsTotal
import HC.Lib.H11MSend
import HC.Proto.H11Total
import HC.Proto.H11Inv
import HC.Proto.H11Run
import HC.Proto.H11Ev
import HC.Proto.H11Safe
import HC.Proto.H2Wire
import HC.Proto.H2WireInv
import HC.Proto.H2Deliver
import HC.Proto.H2DeliverInv
import Driver.H2Wire
import Driver.H2Deliver
